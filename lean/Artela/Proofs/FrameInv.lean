import Artela.Proofs.FrameShape
import Artela.Proofs.FoldKit
/-
  `WorldInv`: every open frame's snapshot still denotes the world as it was when the snapshot was taken — the world's
  prefix up to the snapshot is unchanged, and snapshots are ordered along the stack — so "revert to my snapshot"
  restores exactly that world (C04), over arbitrary event sequences.
-/
namespace Artela
namespace Frame

/-- The last conjunct: only `create` does anything between its entry and its snapshot.  It is carried because `ResultOK`
    of a call frame is stated against `worldAtEntry`. -/
def WorldInv (stack : List OpenFrame) (world : List Effect) : Prop :=
  match stack with
  | [] => True
  | fr :: rest =>
    fr.snapshot ≤ world.length ∧ world.take fr.snapshot = fr.worldAtSnapshot ∧
    WorldInv rest (world.take fr.snapshot) ∧ (fr.kind.isCreate = false → fr.worldAtEntry = fr.worldAtSnapshot)

theorem worldInv_append {stack : List OpenFrame} {world : List Effect} (h : WorldInv stack world) (l : List Effect) :
    WorldInv stack (world ++ l) := by
  cases stack with
  | nil => trivial
  | cons fr rest =>
    obtain ⟨h1, h2, h3, h4⟩ := h
    refine ⟨by simp; omega, ?_, ?_, h4⟩
    · rw [List.take_append_of_le_length h1]; exact h2
    · rw [List.take_append_of_le_length h1]; exact h3

theorem worldInv_tail {fr : OpenFrame} {rest : List OpenFrame} {world : List Effect} (h : WorldInv (fr :: rest) world) :
    WorldInv rest (world.take fr.snapshot) := h.2.2.1

theorem worldInv_pop_keep {fr : OpenFrame} {rest : List OpenFrame} {world : List Effect} (h : WorldInv (fr :: rest) world) :
    WorldInv rest world :=
  List.take_append_drop fr.snapshot world ▸ worldInv_append h.2.2.1 _

theorem worldInv_push {stack : List OpenFrame} {world : List Effect} (h : WorldInv stack world) (fr : OpenFrame)
    (hs : fr.snapshot = world.length) (hw : fr.worldAtSnapshot = world)
    (he : fr.kind.isCreate = false → fr.worldAtEntry = fr.worldAtSnapshot) (l : List Effect) :
    WorldInv (fr :: stack) (world ++ l) := by
  refine ⟨by simp [hs], ?_, ?_, he⟩
  · rw [hs, List.take_left, hw]
  · rw [hs, List.take_left]; exact h

theorem tailWorld_cases (world : List Effect) (snap : Nat) (err : Option String) :
    tailWorld world snap err = world ∨ tailWorld world snap err = world.take snap := by
  unfold tailWorld; cases err <;> simp

/-- C04's statement about one finished invocation -/
def ResultOK (r : FrameResult) : Prop :=
  (r.kind.isCreate = false → r.err ≠ none → r.worldAfter = r.worldAtEntry) ∧
  (r.kind.isCreate = false → r.err = none → ∃ l, r.worldAfter = r.worldAtEntry ++ l) ∧
  (r.kind.isCreate = true → r.err ≠ none → r.err ≠ some errCodeStoreOOG → r.worldAfter = r.worldAtSnapshot)

def Inv (st : FState) : Prop := WorldInv st.stack st.world ∧ ∀ r ∈ st.results, ResultOK r

theorem inv_finish {st : FState} {w : List Effect} {k : CallKind} {c t : Addr} {gs : Nat} {tn dbg top : Bool} {sg : Nat}
    {r : Option Bytes} {g : Nat} {e : Option String} {en sn : List Effect} {ran : Bool}
    (hw : WorldInv st.stack w) (hr : ∀ r ∈ st.results, ResultOK r)
    (hok : ResultOK { kind := k, caller := c, to := t, ret := r, gas := g, err := e, gasSupplied := gs, worldAtEntry := en,
                      worldAtSnapshot := sn, worldAfter := w, ranCode := ran }) :
    Inv (finish st k c t gs tn dbg top sg r g e w en sn ran) :=
  ⟨hw, List.forall_mem_append.2 ⟨hr, List.forall_mem_singleton.2 hok⟩⟩

theorem resultOK_same (k : CallKind) (c t : Addr) (r : Option Bytes) (g : Nat) (e : Option String) (gs : Nat) (w : List Effect) (ran : Bool) :
    ResultOK { kind := k, caller := c, to := t, ret := r, gas := g, err := e, gasSupplied := gs, worldAtEntry := w,
               worldAtSnapshot := w, worldAfter := w, ranCode := ran } :=
  ⟨fun _ _ => rfl, fun _ _ => ⟨[], by simp⟩, fun _ _ _ => rfl⟩

/-- what a frame appended after its snapshot is gone iff it ends in an error -/
theorem resultOK_tail (k : CallKind) (c t : Addr) (r : Option Bytes) (g : Nat) (e : Option String) (gs : Nat)
    (w l : List Effect) (ran : Bool) :
    ResultOK { kind := k, caller := c, to := t, ret := r, gas := g, err := e, gasSupplied := gs, worldAtEntry := w,
               worldAtSnapshot := w, worldAfter := tailWorld (w ++ l) w.length e, ranCode := ran } := by
  cases e with
  | none => exact ⟨fun _ he => absurd rfl he, fun _ _ => ⟨l, rfl⟩, fun _ he => absurd rfl he⟩
  | some x => exact ⟨fun _ _ => List.take_left, nofun, fun _ _ _ => List.take_left⟩

theorem worldInv_tailWorld {stack : List OpenFrame} {w : List Effect} (h : WorldInv stack w) (l : List Effect) (e : Option String) :
    WorldInv stack (tailWorld (w ++ l) w.length e) := by
  cases e with
  | none => exact worldInv_append h l
  | some x => simp only [tailWorld, List.take_left]; exact h

theorem ends_inv (hk : nd = some none → k.isCreate = true) (hi : Inv st) : Inv (ends st nd k c t v i g f p V) := by
  obtain ⟨hw, hr⟩ := hi
  -- the snapshot world keeps the open frames' snapshots valid, and is the world found unless this is a create
  have hsnap : WorldInv st.stack (snapWorld st nd p) ∧ (k.isCreate = false → snapWorld st nd p = st.world) := by
    unfold snapWorld
    split
    · next hnd => exact ⟨worldInv_append hw _, fun hc => by simp [hk hnd] at hc⟩
    · exact ⟨hw, fun _ => rfl⟩
  cases V with
  | refused e g' late =>
    cases late
    · exact inv_finish hw hr (resultOK_same ..)
    · exact inv_finish hsnap.1 hr ⟨fun hc _ => hsnap.2 hc, nofun, fun _ _ _ => rfl⟩
  | absent => exact inv_finish hw hr (resultOK_same ..)
  | answered => exact inv_finish (worldInv_tailWorld hw _ _) hr (resultOK_tail ..)
  | runs => exact ⟨worldInv_push hsnap.1 _ rfl rfl (fun hc => (hsnap.2 hc).symm) _, hr⟩

theorem worldInv_pop_tail {fr : OpenFrame} {rest : List OpenFrame} {world : List Effect} (h : WorldInv (fr :: rest) world)
    (e : Option String) : WorldInv rest (tailWorld world fr.snapshot e) := by
  cases e with
  | none => exact worldInv_pop_keep h
  | some x => exact h.2.2.1

theorem resultOK_pop (fr : OpenFrame) (rest : List OpenFrame) (world : List Effect) (h : WorldInv (fr :: rest) world)
    (hk : fr.kind.isCreate = false) (c t : Addr) (r : Option Bytes) (g : Nat) (e : Option String) (gs : Nat) (ran : Bool) :
    ResultOK { kind := fr.kind, caller := c, to := t, ret := r, gas := g, err := e, gasSupplied := gs, worldAtEntry := fr.worldAtEntry,
               worldAtSnapshot := fr.worldAtSnapshot, worldAfter := tailWorld world fr.snapshot e, ranCode := ran } := by
  obtain ⟨h1, h2, _, h4⟩ := h
  have he := h4 hk
  refine ⟨?_, ?_, fun h => by simp [hk] at h⟩
  · intro _ hne
    cases e with
    | none => exact absurd rfl hne
    | some x => simp only [tailWorld]; rw [h2, he]
  · intro _ hn
    subst hn
    refine ⟨world.drop fr.snapshot, ?_⟩
    simp only [tailWorld]
    rw [he, ← h2, List.take_append_drop]

theorem halts_inv (h : Halts st fr rest ret err gasLeft post st') (hs : st.stack = fr :: rest) (hi : Inv st) :
    Inv st' := by
  obtain ⟨hw, hr⟩ := hi
  rw [hs] at hw
  cases h with
  | tail _ hk => exact inv_finish (worldInv_pop_tail hw _) hr (resultOK_pop fr rest st.world hw hk ..)
  | @create _ _ _ dep x _ _ hk _ _ hrev =>
    -- the deposited code comes after the frame's snapshot, so the frame's invariant holds of the world with it too
    have hw' : WorldInv (fr :: rest) (if dep then st.world ++ [x] else st.world) := by
      cases dep
      · exact hw
      · exact worldInv_append hw _
    refine inv_finish ?_ hr ⟨fun h => by simp [hk] at h, fun h => by simp [hk] at h, fun _ h1 h2 => ?_⟩
    · split
      · exact worldInv_tail hw'
      · exact worldInv_pop_keep hw'
    · rw [if_pos (hrev h1 h2)]
      exact hw'.2.1

theorem step_inv (st : FState) (ev : FEvent) (h : Inv st) : Inv (step st ev) := by
  generalize step st ev = st', step_shape st ev = hS
  cases hS with
  | enters => exact ends_inv CallKind.nodeFor_create h
  | halts hs hH => exact halts_inv hH hs h
  | effect => exact ⟨worldInv_append h.1 _, h.2⟩
  | _ => exact h

theorem run_inv (st : FState) (evs : List FEvent) (h : Inv st) : Inv (run st evs) := foldl_inv step_inv evs st h

theorem inv_init : Inv {} := ⟨trivial, fun r hr => by simp at hr⟩

end Frame
end Artela
