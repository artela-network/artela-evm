import Artela.Proofs.CallTreeWF
/-
  Helper lemmas for C07/C03: balanced `add`/`exit` sequences return the cursor to where it was.
-/
namespace Artela

/-- a node as `add` made it: `children` and the result fields, which `add` and `exit` write later, blanked -/
def CallNode.asMade (n : CallNode) : CallNode := { n with children := [], ret := none, remGas := 0, err := none }

namespace CallTree

/-- the shape of the tracer operations emitted by one top-level frame: `call ::= add call* exit` -/
inductive Balanced : List Op → Prop
  | nil : Balanced []
  | node (f : Addr) (to : Option Addr) (d : Bytes) (v g l : Nat) (r : Option Bytes) (e : Option String)
      (body : List Op) : Balanced body → Balanced (Op.add f to d v g :: (body ++ [Op.exit l r e]))
  | append (a b : List Op) : Balanced a → Balanced b → Balanced (a ++ b)

/-- nodes are never removed, and apart from `children` and the result they stay as they were made -/
def Stable (t t' : CallTree) : Prop :=
  ∀ (i : Nat) (n : CallNode), t.nodes[i]? = some n → ∃ n', t'.nodes[i]? = some n' ∧ n'.asMade = n.asMade

theorem Stable.refl (t : CallTree) : Stable t t := fun _ n h => ⟨n, h, rfl⟩

theorem Stable.trans {a b c : CallTree} (h1 : Stable a b) (h2 : Stable b c) : Stable a c := by
  intro i n hn
  obtain ⟨n1, h1n, e1⟩ := h1 i n hn
  obtain ⟨n2, h2n, e2⟩ := h2 i n1 h1n
  exact ⟨n2, h2n, e2.trans e1⟩

-- `pushChild` and `setResult` write only what `asMade` blanks, so `fun _ h => h` is the proof that they keep it
theorem add_stable (t : CallTree) (f : Addr) (to : Option Addr) (d : Bytes) (v g : Nat) :
    Stable t (t.add f to d v g) := by
  intro i n hn
  unfold add
  refine append_keeps _ ?_
  cases t.current with
  | none => exact ⟨n, hn, rfl⟩
  | some p => exact modify_keeps (P := fun x : CallNode => x.asMade = n.asMade) (g := pushChild t.count) (fun _ h => h) p ⟨n, hn, rfl⟩

theorem exit_stable (t : CallTree) (l : Nat) (r : Option Bytes) (e : Option String) :
    Stable t (t.exit l r e) := by
  intro i n hn
  rcases exit_cases t l r e with heq | ⟨c, _, _, _, heq⟩
  · rw [heq]; exact ⟨n, hn, rfl⟩
  · rw [heq]
    exact modify_keeps (P := fun x : CallNode => x.asMade = n.asMade) (g := setResult l r e) (fun _ h => h) c ⟨n, hn, rfl⟩

theorem step_stable (t : CallTree) (op : Op) : Stable t (t.step op) := by
  cases op with
  | add f to d v g => exact add_stable t f to d v g
  | exit l r e => exact exit_stable t l r e

theorem run_stable (t : CallTree) (ops : List Op) : Stable t (t.run ops) :=
  foldl_inv (I := Stable t) (fun s op h => h.trans (step_stable s op)) ops t (Stable.refl t)

theorem run_append (t : CallTree) (a b : List Op) : t.run (a ++ b) = (t.run a).run b :=
  List.foldl_append

theorem run_cons (t : CallTree) (op : Op) (ops : List Op) : t.run (op :: ops) = (t.step op).run ops := rfl

/-- a balanced sequence leaves the cursor where it found it -/
theorem balanced_current {ops : List Op} (hb : Balanced ops) :
    ∀ {t : CallTree}, WF t → (t.run ops).current = t.current := by
  induction hb with
  | nil => intro t _; rfl
  | node f to d v g l r e body _ ih =>
    intro t hwf
    rw [run_cons, run_append]
    show (((t.add f to d v g).run body).exit l r e).current = t.current
    -- the body leaves the cursor on the node `add` made, and leaves that node's parent alone
    have hcur : ((t.add f to d v g).run body).current = some t.count := ih (add_wf hwf f to d v g)
    obtain ⟨n', hn', hmade⟩ := run_stable _ body _ _ (add_nodes_new hwf.count_eq f to d v g)
    rw [exit_of_current hcur hn']
    exact congrArg CallNode.parent hmade
  | append a b _ _ iha ihb =>
    intro t hwf
    rw [run_append, ihb (run_wf hwf a), iha hwf]

end CallTree
end Artela
