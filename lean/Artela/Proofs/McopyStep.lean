import Artela.Proofs.MemoryKit
/-  The stages of `mcopyStep` (one interpreter step on MCOPY) — size function, gas function, expansion — inside and outside
    their range; C15 composes them. -/
namespace Artela

theorem mcopyStep_zero (m : MemState) (gas : Nat) (dst src : Word) :
    mcopyStep m gas dst src 0 = if gas < 3 then .err "out of gas" else .ok (m, 3) := by
  -- with length 0 the size function and the gas function compute by themselves
  have h1 : memoryMcopy dst src 0 = (0, false) := rfl
  have h3 : gasMcopy m.store.length m.lastGasCost 0 0 = some (0, m.lastGasCost) := rfl
  unfold mcopyStep
  rw [h1]
  dsimp only
  rw [if_neg (by decide), show toWordSize 0 = 0 from rfl, if_neg (by decide), h3]
  dsimp only
  by_cases hg : gas < 3
  · rw [if_pos hg, if_pos hg]
  · rw [if_neg hg, if_neg hg, if_neg (Nat.not_lt_zero _), if_neg (fun h => Nat.lt_irrefl _ h.1)]
    rfl

/-- the `store'` of `mcopyStep` (Model/Memory.lean), named so that `mcopyStep_eip` can rewrite it; `Interp.memResize` with the
    `size > 0` test inside -/
def expand (store : Bytes) (size : Nat) : Bytes :=
  if size > 0 ∧ store.length < size then store ++ List.replicate (size - store.length) 0 else store

theorem mcopyOff_eq_max (dst src : Nat) : (if src > dst then src else dst) = max dst src := by
  split <;> omega

theorem memoryMcopy_inside {dst src len : Word} (hl : 0 < len) (hr : max dst src + len < U64) :
    memoryMcopy dst src len = (max dst src + len, false) := by
  unfold memoryMcopy calcMemSize64
  rw [mcopyOff_eq_max, if_neg (by omega), if_neg (by omega), if_neg (by omega), Nat.mod_eq_of_lt hr]
  dsimp only
  rw [decide_eq_false (by omega)]

/-- a wrapping sum is smaller than its first summand: the overflow flag of `calcMemSize64` -/
theorem memoryMcopy_overflow {dst src len : Word} (hl : 0 < len) (hr : U64 ≤ max dst src + len) :
    ∃ sz, memoryMcopy dst src len = (sz, true) := by
  unfold memoryMcopy calcMemSize64
  rw [mcopyOff_eq_max]
  by_cases c1 : len ≥ U64
  · rw [if_pos c1]; exact ⟨_, rfl⟩
  · rw [if_neg c1, if_neg (by omega)]
    by_cases c2 : max dst src ≥ U64
    · rw [if_pos c2]; exact ⟨_, rfl⟩
    · rw [if_neg c2, Nat.mod_eq_sub_mod hr, Nat.mod_eq_of_lt (by omega)]
      dsimp only
      rw [decide_eq_true (by omega)]
      exact ⟨_, rfl⟩

/-- the copier's charge while `lastGasCost` is in step with the memory -/
theorem gasMcopy_synced {memLen w : Nat} {len : Word} (hmem : memLen ≤ 0x1FFFFFFFE0) (hcap : w * 32 ≤ 0x1FFFFFFFE0)
    (hlen : len ≤ 0x1FFFFFFFE0) :
    gasMcopy memLen (memFee (memLen / 32)) (w * 32) len =
      some (memFee (max (memLen / 32) w) - memFee (memLen / 32) + (len + 31) / 32 * 3, memFee (max (memLen / 32) w)) := by
  have hU := U64_eq
  have hM := maxU64_eq
  unfold gasMcopy
  rw [memoryGasCost_synced _ hcap]
  dsimp only
  have := memFee_lt (w := max (memLen / 32) w) (by omega)
  rw [toWordSize_small len (by omega), if_neg (by omega), if_neg (by omega), if_neg (by omega)]

/-- the interpreter's two gas checks (constant part, then dynamic part) as one -/
theorem gas_checks {α} (gas c dyn : Nat) (a b : α) :
    (if gas < c then a else if gas - c < dyn then a else b) = if gas < c + dyn then a else b := by
  by_cases c1 : gas < c
  · rw [if_pos c1, if_pos (by omega)]
  · rw [if_neg c1]
    by_cases c2 : gas - c < dyn
    · rw [if_pos c2, if_pos (by omega)]
    · rw [if_neg c2, if_neg (by omega)]

theorem gasMcopy_none {memLen last size : Nat} {len : Word} (h : 0x1FFFFFFFE0 < size) : gasMcopy memLen last size len = none := by
  unfold gasMcopy memoryGasCost
  rw [if_neg (by omega), if_pos h]

/-- beyond what the gas schedule can pay for; in particular any operand ≥ 2^64 and any wrapping sum -/
theorem mcopyStep_out_of_range (m : MemState) (gas : Nat) (dst src len : Word) (hl : 0 < len)
    (hr : max dst src + len > 0x1FFFFFFFE0) : ∃ e, mcopyStep m gas dst src len = .err e := by
  have hU := U64_eq
  unfold mcopyStep
  by_cases c : max dst src + len < U64
  · rw [memoryMcopy_inside hl c]
    dsimp only
    rw [if_neg (by decide)]
    by_cases c1 : toWordSize (max dst src + len) * 32 ≥ U64
    · rw [if_pos c1]; exact ⟨_, rfl⟩
    · rw [if_neg c1]
      by_cases c2 : gas < 3
      · rw [if_pos c2]; exact ⟨_, rfl⟩
      · rw [if_neg c2, gasMcopy_none (Nat.lt_of_lt_of_le hr (le_toWordSize c))]; exact ⟨_, rfl⟩
  · obtain ⟨sz, h⟩ := memoryMcopy_overflow hl (Nat.le_of_not_lt c)
    rw [h]; exact ⟨_, rfl⟩

end Artela
