import Artela.Model.Base
/-  `bytesLE` (Go `bytes.Compare ≤ 0`, the order `sort.Strings` uses) is core's lexicographic `≤` on `List UInt8`,
    hence a total order on byte strings. -/
namespace Artela

theorem bytesLE_iff : ∀ (a b : Bytes), bytesLE a b = true ↔ a ≤ b
  | [], b => by simp [bytesLE]
  | _ :: _, [] => by simp [bytesLE]
  | x :: xs, y :: ys => by
    rw [List.cons_le_cons_iff, ← bytesLE_iff xs ys, bytesLE]
    by_cases h1 : x < y
    · simp [h1]
    · by_cases h2 : y < x
      · have : x ≠ y := fun e => by subst e; exact UInt8.lt_irrefl _ h2
        simp [h1, h2, this]
      · have : x = y := UInt8.le_antisymm (UInt8.not_lt.mp h2) (UInt8.not_lt.mp h1)
        simp [this]

theorem bytesLE_refl : ∀ (a : Bytes), bytesLE a a = true :=
  fun a => (bytesLE_iff a a).mpr (List.le_refl a)

theorem bytesLE_total (a b : Bytes) : (bytesLE a b || bytesLE b a) = true := by
  simpa [bytesLE_iff] using List.le_total a b

theorem bytesLE_antisymm (a b : Bytes) (h1 : bytesLE a b = true) (h2 : bytesLE b a = true) : a = b :=
  List.le_antisymm ((bytesLE_iff a b).mp h1) ((bytesLE_iff b a).mp h2)

theorem bytesLE_trans (a b c : Bytes) (h1 : bytesLE a b = true) (h2 : bytesLE b c = true) : bytesLE a c = true :=
  (bytesLE_iff a c).mpr (List.le_trans ((bytesLE_iff a b).mp h1) ((bytesLE_iff b c).mp h2))

end Artela
