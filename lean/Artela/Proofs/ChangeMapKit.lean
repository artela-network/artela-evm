import Artela.Model.StateChanges
import Artela.Proofs.ArenaKit
/-  Laws of `ChangeMap.append` (tracer.go `StorageChanges.append`): per call index, append unless the value repeats the last entry. -/
namespace Artela

/-- specification of one journal step on a list -/
def appendDedup (l : List Bytes) (v : Bytes) : List Bytes := if l.getLast? = some v then l else l ++ [v]

/-- chronological list of journaled values with immediate repeats collapsed -/
def collapse (vs : List Bytes) : List Bytes := vs.foldl appendDedup []

theorem appendDedup_ne_nil (l : List Bytes) (v : Bytes) : appendDedup l v ≠ [] := by
  unfold appendDedup
  split
  · next h => intro e; rw [e] at h; cases h
  · simp

def ChangeMap.at (m : ChangeMap) (i : Nat) : List Bytes := (alookup i m).getD []

theorem ChangeMap.append_eq (m : ChangeMap) (i : Nat) (v : Bytes) : m.append i v = aset i (appendDedup (m.at i) v) m := by
  unfold ChangeMap.append ChangeMap.at appendDedup
  cases h : alookup i m with
  | none => rfl
  | some l =>
    simp only [Option.getD_some]
    split
    · exact (aset_self i l m h).symm
    · rfl

theorem ChangeMap.append_at (m : ChangeMap) (i : Nat) (v : Bytes) : (m.append i v).at i = appendDedup (m.at i) v := by
  rw [ChangeMap.append_eq, ChangeMap.at, alookup_aset_same]; rfl

theorem ChangeMap.append_other (m : ChangeMap) (i j : Nat) (v : Bytes) (h : j ≠ i) : (m.append i v).at j = m.at j := by
  rw [ChangeMap.append_eq, ChangeMap.at, alookup_aset_other i j _ h]; rfl

/-- every stored list is non-empty (so "last entry" is always defined): invariant of `append` -/
def ChangeMap.NonEmpty (m : ChangeMap) : Prop := ∀ i l, alookup i m = some l → l ≠ []

theorem ChangeMap.append_nonEmpty (m : ChangeMap) (i : Nat) (v : Bytes) (h : m.NonEmpty) : (m.append i v).NonEmpty := by
  intro j l hl
  rw [ChangeMap.append_eq, alookup_aset] at hl
  split at hl
  · cases hl; exact appendDedup_ne_nil _ v
  · exact h j l hl

/-- `JournalChanges`: besides `changes` only the node type moves, and never from or to root -/
theorem journal_keeps (k : KeyNode) (i : Nat) (v : Bytes) :
    (k.journal i v).slot = k.slot ∧ (k.journal i v).offset = k.offset ∧ (k.journal i v).typeId = k.typeId ∧
    (k.journal i v).childrenIndex = k.childrenIndex ∧ (k.journal i v).children = k.children ∧
    ((k.journal i v).nodeType = .root ↔ k.nodeType = .root) ∧
    (k.journal i v).changes = some ((k.changes.getD []).append i v) := by
  unfold KeyNode.journal
  cases k.changes with
  | none =>
    refine ⟨rfl, rfl, rfl, rfl, rfl, ?_, rfl⟩
    by_cases hr : k.nodeType = .root <;> simp [hr]
  | some m => exact ⟨rfl, rfl, rfl, rfl, rfl, Iff.rfl, rfl⟩

theorem journal_changes (k : KeyNode) (i : Nat) (v : Bytes) :
    (k.journal i v).changes = some ((k.changes.getD []).append i v) :=
  (journal_keeps k i v).2.2.2.2.2.2

end Artela
