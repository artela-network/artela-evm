import Artela.Model.Base
/-  `beBytes` (fixed-width big-endian bytes) and `beNat`. -/
namespace Artela

theorem U64_eq : U64 = 18446744073709551616 := by decide
theorem W256_eq : W256 = 115792089237316195423570985008687907853269984665640564039457584007913129639936 := by decide

@[simp] theorem beBytes_length : ∀ (n x : Nat), (beBytes n x).length = n
  | 0, _ => rfl
  | n + 1, x => by simp [beBytes, beBytes_length n]

theorem beBytes_mod : ∀ (n x : Nat), beBytes n (x % 256 ^ n) = beBytes n x
  | 0, _ => rfl
  | n + 1, x => by
    simp only [beBytes]
    have h1 : x % 256 ^ (n + 1) / 256 = (x / 256) % 256 ^ n := by
      rw [Nat.pow_succ, Nat.mul_comm, Nat.mod_mul_right_div_self]
    have h2 : x % 256 ^ (n + 1) % 256 = x % 256 := by
      rw [Nat.pow_succ]; exact Nat.mod_mul_left_mod x (256 ^ n) 256
    rw [h1, h2, beBytes_mod n (x / 256)]

/-- by computation `W256 = 256 ^ 32` -/
theorem bytes32_eq (x : Nat) : bytes32 x = beBytes 32 x := beBytes_mod 32 x

theorem beBytes_add : ∀ (a b x : Nat), beBytes (a + b) x = beBytes a (x / 256 ^ b) ++ beBytes b x
  | a, 0, x => by simp [beBytes]
  | a, b + 1, x => by
    have : a + (b + 1) = (a + b) + 1 := by omega
    rw [this]
    simp only [beBytes]
    rw [beBytes_add a b (x / 256), Nat.div_div_eq_div_mul, List.append_assoc]
    congr 2
    rw [Nat.pow_succ, Nat.mul_comm]

/-- the `w` bytes that start `lo` bytes above the low-order end -/
theorem beBytes_extract (n x : Nat) {lo w : Nat} (h : lo + w ≤ n) :
    (beBytes n x).extract (n - lo - w) (n - lo) = beBytes w ((x / 256 ^ lo) % 256 ^ w) := by
  obtain ⟨hi, rfl⟩ : ∃ hi, n = hi + w + lo := ⟨n - lo - w, by omega⟩
  -- the high `hi` bytes ++ the field ++ the low `lo` bytes
  rw [Nat.add_sub_cancel, Nat.add_sub_cancel, beBytes_add (hi + w) lo x, beBytes_add hi w (x / 256 ^ lo), beBytes_mod,
    List.extract_eq_take_drop, Nat.add_sub_cancel_left, List.append_assoc, List.drop_left' (beBytes_length _ _),
    List.take_left' (beBytes_length _ _)]

theorem beBytes_take_high (a b x k : Nat) (hk : k ≤ a) :
    (beBytes (a + b) x).take k = (beBytes a (x / 256 ^ b)).take k := by
  rw [beBytes_add, List.take_append_of_le_length (by simp [hk])]

theorem beNat_lt : ∀ (b : Bytes), beNat b < 256 ^ b.length
  | [] => by simp [beNat]
  | x :: xs => by
    simp only [beNat, List.length_cons, Nat.pow_succ]
    have := beNat_lt xs
    have hx : x.toNat < 256 := x.toNat_lt
    calc x.toNat * 256 ^ xs.length + beNat xs < x.toNat * 256 ^ xs.length + 256 ^ xs.length := by omega
      _ = (x.toNat + 1) * 256 ^ xs.length := by rw [Nat.add_mul, Nat.one_mul]
      _ ≤ 256 * 256 ^ xs.length := Nat.mul_le_mul_right _ (by omega)
      _ = 256 ^ xs.length * 256 := Nat.mul_comm _ _

end Artela
