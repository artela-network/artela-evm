import Artela.Generated.JumpTables
import Artela.Generated.Precompiles
import Artela.Generated.FuncIdentity
import Artela.Generated.SourceFacts
import Artela.Spec.Delta
/-
  Obligations over the tables regenerated from /repo on every run (`harness extract`).  Where the fact is that a
  generated list of strings is a given list, it is `rfl` (two literals are compared as such; deciding the equality
  would compare them character by character); the others are closed by `decide +kernel` (kernel evaluation of a
  decidable proposition).  No axioms either way: they are re-checked against what the code says now, and fail as soon
  as a table entry, a precompile set or the identity status of an inherited declaration changes.
-/
namespace Artela
open Artela.Gen

def isJournalOp (r : OpRow) : Bool := 0xe0 ≤ r.op && r.op ≤ 0xe7
def notJournal (r : OpRow) : Bool := !isJournalOp r

/-- the eight journal instructions as every table must list them: no constant gas, the flat-fee dynamic gas
    closure, no memory-size function, `minStack = arity`, `maxStack = 1024 + arity` (pops arity, pushes 0) -/
def journalRows : List OpRow := [
  ⟨0xe0, "opReferenceStateVarJournal", "makeGasJournal", "-", 0, 3, 1027⟩,
  ⟨0xe1, "opValueStateVarJournal", "makeGasJournal", "-", 0, 4, 1028⟩,
  ⟨0xe2, "opReferenceIndexValueStorageJournal", "makeGasJournal", "-", 0, 6, 1030⟩,
  ⟨0xe3, "opReferenceIndexReferenceStorageJournal", "makeGasJournal", "-", 0, 5, 1029⟩,
  ⟨0xe4, "opValueIndexValueStorageJournal", "makeGasJournal", "-", 0, 6, 1030⟩,
  ⟨0xe5, "opValueIndexReferenceStorageJournal", "makeGasJournal", "-", 0, 5, 1029⟩,
  ⟨0xe6, "opValueChangeJournal", "makeGasJournal", "-", 0, 4, 1028⟩,
  ⟨0xe7, "opReferenceChangeJournal", "makeGasJournal", "-", 0, 2, 1026⟩]

/-- TLOAD, TSTORE, MCOPY; 0xb3/0xb4 are TLOAD/TSTORE in go-ethereum v1.12.0's numbering: listed so that the facts below also say
    that nothing is wired there -/
def cancunOps (r : OpRow) : Bool := r.op == 0x5c || r.op == 0x5d || r.op == 0x5e || r.op == 0xb3 || r.op == 0xb4

/-- the instruction tables of the running code: the 13 forks and the 9 extra-EIP variants -/
def Interp.extractedTables : List (List OpRow) := [forkFrontier, forkHomestead, forkTangerineWhistle, forkSpuriousDragon, forkByzantium, forkConstantinople, forkPetersburg, forkIstanbul, forkBerlin, forkLondon, forkMerge, forkShanghai, forkCancun, forkIstanbulEip2929, forkBerlinEip3198, forkLondonEip3855, forkLondonEip3860, forkConstantinopleEip1344, forkConstantinopleEip1884, forkConstantinopleEip2200, forkShanghaiEip1153, forkShanghaiEip5656]

/-- the instruction tables of go-ethereum v1.12.0, Frontier … Shanghai (equal to the fork's outside 0xe0–0xe7: `tables_agree_*`) -/
def Interp.upstreamTables : List (List OpRow) := [upFrontier, upHomestead, upTangerineWhistle, upSpuriousDragon, upByzantium, upConstantinople, upPetersburg, upIstanbul, upBerlin, upLondon, upMerge, upShanghai]

open Interp (extractedTables upstreamTables)

-- Each family below is one evaluation over the list of tables, and its members are read off it: the kernel remembers its
-- verdict on a row, and the tables share nearly all their rows, so a family costs little more than its first member.

/-! ### C01/C02/C12/C18: outside 0xe0–0xe7 every fork table equals upstream's, entry by entry -/

theorem tables_agree : ∀ p ∈ extractedTables.zip upstreamTables, p.1.filter notJournal = p.2 := by decide +kernel
theorem tables_agree_Frontier : forkFrontier.filter notJournal = upFrontier := tables_agree (forkFrontier, upFrontier) (by simp [extractedTables, upstreamTables])
theorem tables_agree_Homestead : forkHomestead.filter notJournal = upHomestead := tables_agree (forkHomestead, upHomestead) (by simp [extractedTables, upstreamTables])
theorem tables_agree_TangerineWhistle : forkTangerineWhistle.filter notJournal = upTangerineWhistle := tables_agree (forkTangerineWhistle, upTangerineWhistle) (by simp [extractedTables, upstreamTables])
theorem tables_agree_SpuriousDragon : forkSpuriousDragon.filter notJournal = upSpuriousDragon := tables_agree (forkSpuriousDragon, upSpuriousDragon) (by simp [extractedTables, upstreamTables])
theorem tables_agree_Byzantium : forkByzantium.filter notJournal = upByzantium := tables_agree (forkByzantium, upByzantium) (by simp [extractedTables, upstreamTables])
theorem tables_agree_Constantinople : forkConstantinople.filter notJournal = upConstantinople := tables_agree (forkConstantinople, upConstantinople) (by simp [extractedTables, upstreamTables])
theorem tables_agree_Petersburg : forkPetersburg.filter notJournal = upPetersburg := tables_agree (forkPetersburg, upPetersburg) (by simp [extractedTables, upstreamTables])
theorem tables_agree_Istanbul : forkIstanbul.filter notJournal = upIstanbul := tables_agree (forkIstanbul, upIstanbul) (by simp [extractedTables, upstreamTables])
theorem tables_agree_Berlin : forkBerlin.filter notJournal = upBerlin := tables_agree (forkBerlin, upBerlin) (by simp [extractedTables, upstreamTables])
theorem tables_agree_London : forkLondon.filter notJournal = upLondon := tables_agree (forkLondon, upLondon) (by simp [extractedTables, upstreamTables])
theorem tables_agree_Merge : forkMerge.filter notJournal = upMerge := tables_agree (forkMerge, upMerge) (by simp [extractedTables, upstreamTables])
theorem tables_agree_Shanghai : forkShanghai.filter notJournal = upShanghai := tables_agree (forkShanghai, upShanghai) (by simp [extractedTables, upstreamTables])

/-! ### C12: the journal instructions exist on every fork (and with every extra-EIP set) with the same entry -/
theorem journal_rows : ∀ t ∈ extractedTables, t.filter isJournalOp = journalRows := by decide +kernel
theorem journal_rows_Frontier : forkFrontier.filter isJournalOp = journalRows := journal_rows _ (by simp [extractedTables])
theorem journal_rows_Homestead : forkHomestead.filter isJournalOp = journalRows := journal_rows _ (by simp [extractedTables])
theorem journal_rows_TangerineWhistle : forkTangerineWhistle.filter isJournalOp = journalRows := journal_rows _ (by simp [extractedTables])
theorem journal_rows_SpuriousDragon : forkSpuriousDragon.filter isJournalOp = journalRows := journal_rows _ (by simp [extractedTables])
theorem journal_rows_Byzantium : forkByzantium.filter isJournalOp = journalRows := journal_rows _ (by simp [extractedTables])
theorem journal_rows_Constantinople : forkConstantinople.filter isJournalOp = journalRows := journal_rows _ (by simp [extractedTables])
theorem journal_rows_Petersburg : forkPetersburg.filter isJournalOp = journalRows := journal_rows _ (by simp [extractedTables])
theorem journal_rows_Istanbul : forkIstanbul.filter isJournalOp = journalRows := journal_rows _ (by simp [extractedTables])
theorem journal_rows_Berlin : forkBerlin.filter isJournalOp = journalRows := journal_rows _ (by simp [extractedTables])
theorem journal_rows_London : forkLondon.filter isJournalOp = journalRows := journal_rows _ (by simp [extractedTables])
theorem journal_rows_Merge : forkMerge.filter isJournalOp = journalRows := journal_rows _ (by simp [extractedTables])
theorem journal_rows_Shanghai : forkShanghai.filter isJournalOp = journalRows := journal_rows _ (by simp [extractedTables])
theorem journal_rows_Cancun : forkCancun.filter isJournalOp = journalRows := journal_rows _ (by simp [extractedTables])
theorem journal_rows_IstanbulEip2929 : forkIstanbulEip2929.filter isJournalOp = journalRows := journal_rows _ (by simp [extractedTables])
theorem journal_rows_BerlinEip3198 : forkBerlinEip3198.filter isJournalOp = journalRows := journal_rows _ (by simp [extractedTables])
theorem journal_rows_LondonEip3855 : forkLondonEip3855.filter isJournalOp = journalRows := journal_rows _ (by simp [extractedTables])
theorem journal_rows_LondonEip3860 : forkLondonEip3860.filter isJournalOp = journalRows := journal_rows _ (by simp [extractedTables])
theorem journal_rows_ConstantinopleEip1344 : forkConstantinopleEip1344.filter isJournalOp = journalRows := journal_rows _ (by simp [extractedTables])
theorem journal_rows_ConstantinopleEip1884 : forkConstantinopleEip1884.filter isJournalOp = journalRows := journal_rows _ (by simp [extractedTables])
theorem journal_rows_ConstantinopleEip2200 : forkConstantinopleEip2200.filter isJournalOp = journalRows := journal_rows _ (by simp [extractedTables])
theorem journal_rows_ShanghaiEip1153 : forkShanghaiEip1153.filter isJournalOp = journalRows := journal_rows _ (by simp [extractedTables])
theorem journal_rows_ShanghaiEip5656 : forkShanghaiEip5656.filter isJournalOp = journalRows := journal_rows _ (by simp [extractedTables])

/-! ### C15: TLOAD/TSTORE/MCOPY are defined exactly in the Cancun table (and by their activators), nowhere else -/
theorem cancun_rows : forkCancun.filter cancunOps = [
    ⟨0x5c, "opTload", "-", "-", 100, 1, 1024⟩,
    ⟨0x5d, "opTstore", "-", "-", 100, 2, 1026⟩,
    ⟨0x5e, "opMcopy", "memoryCopierGas", "memoryMcopy", 3, 3, 1027⟩] := by decide +kernel
/-- apart from those three entries the Cancun table is the Shanghai table -/
theorem cancun_is_shanghai_plus : forkCancun.filter (fun r => !cancunOps r) = forkShanghai := by decide +kernel
theorem pre_cancun_undefined : ∀ t ∈ extractedTables.take 12, t.filter cancunOps = [] := by decide +kernel
theorem pre_cancun_undefined_Frontier : forkFrontier.filter cancunOps = [] := pre_cancun_undefined _ (by simp [extractedTables])
theorem pre_cancun_undefined_Homestead : forkHomestead.filter cancunOps = [] := pre_cancun_undefined _ (by simp [extractedTables])
theorem pre_cancun_undefined_TangerineWhistle : forkTangerineWhistle.filter cancunOps = [] := pre_cancun_undefined _ (by simp [extractedTables])
theorem pre_cancun_undefined_SpuriousDragon : forkSpuriousDragon.filter cancunOps = [] := pre_cancun_undefined _ (by simp [extractedTables])
theorem pre_cancun_undefined_Byzantium : forkByzantium.filter cancunOps = [] := pre_cancun_undefined _ (by simp [extractedTables])
theorem pre_cancun_undefined_Constantinople : forkConstantinople.filter cancunOps = [] := pre_cancun_undefined _ (by simp [extractedTables])
theorem pre_cancun_undefined_Petersburg : forkPetersburg.filter cancunOps = [] := pre_cancun_undefined _ (by simp [extractedTables])
theorem pre_cancun_undefined_Istanbul : forkIstanbul.filter cancunOps = [] := pre_cancun_undefined _ (by simp [extractedTables])
theorem pre_cancun_undefined_Berlin : forkBerlin.filter cancunOps = [] := pre_cancun_undefined _ (by simp [extractedTables])
theorem pre_cancun_undefined_London : forkLondon.filter cancunOps = [] := pre_cancun_undefined _ (by simp [extractedTables])
theorem pre_cancun_undefined_Merge : forkMerge.filter cancunOps = [] := pre_cancun_undefined _ (by simp [extractedTables])
theorem pre_cancun_undefined_Shanghai : forkShanghai.filter cancunOps = [] := pre_cancun_undefined _ (by simp [extractedTables])
theorem eip1153_rows : forkShanghaiEip1153.filter cancunOps = [
    ⟨0x5c, "opTload", "-", "-", 100, 1, 1024⟩, ⟨0x5d, "opTstore", "-", "-", 100, 2, 1026⟩] := by decide +kernel
theorem eip5656_rows : forkShanghaiEip5656.filter cancunOps = [
    ⟨0x5e, "opMcopy", "memoryCopierGas", "memoryMcopy", 3, 3, 1027⟩] := by decide +kernel

/-! ### C14 / C01: precompile sets -/
theorem precompiles_agree_Homestead : forkPrecompilesHomestead = upPrecompilesHomestead := rfl
theorem precompiles_agree_Byzantium : forkPrecompilesByzantium = upPrecompilesByzantium := rfl
theorem precompiles_agree_Istanbul : forkPrecompilesIstanbul = upPrecompilesIstanbul := rfl
theorem precompiles_agree_BLS : forkPrecompilesBLS = upPrecompilesBLS := rfl
def isArtelaPrecompile (s : String) : Bool := s == "64=aspcontext" || s == "65=userOpSender" || s == "66=contextWriter"
/-- Berlin = upstream's Berlin set plus exactly the three Artela precompiles -/
theorem precompiles_berlin_delta :
    forkPrecompilesBerlin.filter (fun s => !isArtelaPrecompile s) = upPrecompilesBerlin ∧
    forkPrecompilesBerlin.filter isArtelaPrecompile = ["64=aspcontext", "65=userOpSender", "66=contextWriter"] := by decide +kernel
def isArtelaAddr (s : String) : Bool := s == "64" || s == "65" || s == "66"
/-- the Artela addresses are active precompiles exactly from Berlin on -/
theorem artela_active_from_berlin :
    (forkActiveBerlin.filter isArtelaAddr = ["64", "65", "66"]) ∧ (forkActiveLondon.filter isArtelaAddr = ["64", "65", "66"]) ∧
    (forkActiveMerge.filter isArtelaAddr = ["64", "65", "66"]) ∧ (forkActiveShanghai.filter isArtelaAddr = ["64", "65", "66"]) ∧
    (forkActiveCancun.filter isArtelaAddr = ["64", "65", "66"]) := by decide +kernel
theorem artela_inactive_before_berlin :
    forkActiveFrontier.filter isArtelaAddr = [] ∧ forkActiveHomestead.filter isArtelaAddr = [] ∧
    forkActiveTangerineWhistle.filter isArtelaAddr = [] ∧ forkActiveSpuriousDragon.filter isArtelaAddr = [] ∧
    forkActiveByzantium.filter isArtelaAddr = [] ∧ forkActiveConstantinople.filter isArtelaAddr = [] ∧
    forkActivePetersburg.filter isArtelaAddr = [] ∧ forkActiveIstanbul.filter isArtelaAddr = [] := by decide +kernel
theorem active_agree_Frontier : forkActiveFrontier.filter (fun s => !isArtelaAddr s) = upActiveFrontier := by decide +kernel
theorem active_agree_Homestead : forkActiveHomestead.filter (fun s => !isArtelaAddr s) = upActiveHomestead := by decide +kernel
theorem active_agree_TangerineWhistle : forkActiveTangerineWhistle.filter (fun s => !isArtelaAddr s) = upActiveTangerineWhistle := by decide +kernel
theorem active_agree_SpuriousDragon : forkActiveSpuriousDragon.filter (fun s => !isArtelaAddr s) = upActiveSpuriousDragon := by decide +kernel
theorem active_agree_Byzantium : forkActiveByzantium.filter (fun s => !isArtelaAddr s) = upActiveByzantium := by decide +kernel
theorem active_agree_Constantinople : forkActiveConstantinople.filter (fun s => !isArtelaAddr s) = upActiveConstantinople := by decide +kernel
theorem active_agree_Petersburg : forkActivePetersburg.filter (fun s => !isArtelaAddr s) = upActivePetersburg := by decide +kernel
theorem active_agree_Istanbul : forkActiveIstanbul.filter (fun s => !isArtelaAddr s) = upActiveIstanbul := by decide +kernel
theorem active_agree_Berlin : forkActiveBerlin.filter (fun s => !isArtelaAddr s) = upActiveBerlin := by decide +kernel
theorem active_agree_London : forkActiveLondon.filter (fun s => !isArtelaAddr s) = upActiveLondon := by decide +kernel
theorem active_agree_Merge : forkActiveMerge.filter (fun s => !isArtelaAddr s) = upActiveMerge := by decide +kernel
theorem active_agree_Shanghai : forkActiveShanghai.filter (fun s => !isArtelaAddr s) = upActiveShanghai := by decide +kernel
/-- fixed fee 5000 whatever the payload size (observed on sizes 0, 1, 32, 1000, 100000) -/
theorem artela_fees : artelaPrecompileFees =
    ["64/0=5000", "64/100000=5000", "64/1000=5000", "64/1=5000", "64/32=5000",
     "65/0=5000", "65/100000=5000", "65/1000=5000", "65/1=5000", "65/32=5000",
     "66/0=5000", "66/100000=5000", "66/1000=5000", "66/1=5000", "66/32=5000"] := rfl

/-! ### the fee functions are single constant returns -/
theorem fee_bodies : feeBodies = [
    "aspcontext.RequiredGas={return5000}",
    "contextWriter.RequiredGas={return5000}",
    "makeGasJournal={returnfunc(evm*EVM,contract*Contract,stack*Stack,mem*Memory,memorySizeuint64)(uint64,error){returnparams.SloadGasEIP2200,nil}}",
    "userOpSender.RequiredGas={return5000}"] := rfl

/-! ### C16/C17: no function of package vm writes a package-level variable after init, and the shared 256-bit
    constants are never the receiver of a mutating method, aliased-then-mutated, or have their address taken -/
theorem no_global_writes : globalWrites =
    ["stack.go:newstack:mutating-method:stackPool.Get", "stack.go:returnStack:mutating-method:stackPool.Put"] := rfl

/-! ### C01/C02/C18: every declaration that differs from go-ethereum v1.12.0 is in the modelled delta -/
theorem contains_of_any_and {α} [BEq α] [LawfulBEq α] {l : List α} {r : α} {p : α → Bool}
    (h : l.any (fun e => p e && e == r) = true) : l.contains r = true := by
  obtain ⟨e, he, hp⟩ := List.any_eq_true.mp h
  rw [Bool.and_eq_true, beq_iff_eq] at hp
  exact List.contains_iff_mem.mpr (hp.2 ▸ he)

-- The search is evaluated with a test on the length of the name in front (`contains_of_any_and`: sound whatever the test):
-- in the kernel a string comparison costs per character, and most of the 160 × 160 pairs share a long prefix (`func …`).
theorem delta_is_modelled : declDelta.all (fun r => expectedDelta.contains r) = true :=
  have h : declDelta.all (fun r => expectedDelta.any fun e => e.2.1.utf8ByteSize == r.2.1.utf8ByteSize && e == r) = true := by
    decide +kernel
  List.all_eq_true.mpr fun r hr => contains_of_any_and (List.all_eq_true.mp h r hr)

end Artela
