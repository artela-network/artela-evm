import Artela.Model.Interp
import Artela.Proofs.MemoryKit
import Artela.Proofs.GoKit
/-
  What one iteration of the interpreter loop does, said once: each stage (`memPart`, `dynGasOf`, `gasPart`, `dynPart`, `pre`,
  `exec`) has one lemma `…_out` that says what each of its outcomes means, and `run_inv`, `run_measure` turn a fact about `step`
  into one about `run`.  The property files project from here.
-/
namespace Artela
namespace Interp
variable {World : Type}

/-- `pops` / `pushes` count as vm/stack_table.go does: `minDupStack(n) = minStack(n, n+1)` for DUPn, `minSwapStack(n+1) = minStack(n+1, n+1)`
    for SWAPn, so DUPn "pops" `n` and "pushes" `n + 1`: it is the difference and the floor that matter -/
def Instr.pops : Instr → Nat
  | .stop => 0 | .bin _ => 2 | .iszero => 1 | .not => 1 | .addmod => 3 | .mulmod => 3 | .exp => 2 | .env _ => 0
  | .calldataload => 1 | .calldatacopy => 3 | .codecopy => 3 | .returndatasize => 0 | .returndatacopy => 3
  | .pop => 1 | .mload => 1 | .mstore => 2 | .mstore8 => 2 | .jump => 1 | .jumpi => 2 | .pc => 0 | .msize => 0 | .gas => 0
  | .jumpdest => 0 | .mcopy => 3 | .keccak => 2 | .tload => 1 | .tstore => 2 | .push _ => 0 | .dup n => n | .swap n => n + 1 | .ret => 2 | .revert => 2
  | .journal j => j.arity

def Instr.pushes : Instr → Nat
  | .stop => 0 | .bin _ => 1 | .iszero => 1 | .not => 1 | .addmod => 1 | .mulmod => 1 | .exp => 1 | .env _ => 1
  | .calldataload => 1 | .calldatacopy => 0 | .codecopy => 0 | .returndatasize => 1 | .returndatacopy => 0
  | .pop => 0 | .mload => 1 | .mstore => 0 | .mstore8 => 0 | .jump => 0 | .jumpi => 0 | .pc => 1 | .msize => 1 | .gas => 1
  | .jumpdest => 0 | .mcopy => 0 | .keccak => 1 | .tload => 1 | .tstore => 0 | .push _ => 1 | .dup n => n + 1 | .swap n => n + 1 | .ret => 0 | .revert => 0
  | .journal _ => 0

def Instr.isJournal : Instr → Bool
  | .journal _ => true
  | _ => false

theorem writeAt_length (store : Bytes) (off room : Nat) (v : Bytes) (h : off + room ≤ store.length) :
    (writeAt store off room v).length = store.length := by
  unfold writeAt
  simp only [List.length_append, List.length_take, List.length_drop]
  omega

theorem rightPad_length (b : Bytes) (n : Nat) (h : b.length ≤ n) : (rightPad b n).length = n := by
  unfold rightPad; split
  · omega
  · simp; omega

/-- for Go-sized arguments `getData` returns exactly `size` bytes -/
theorem getData_ok (data : Bytes) (start size : Nat) (hd : data.length < 2 ^ 63) (hs : size < 2 ^ 63) :
    ∃ d, getData data start size = .ok d ∧ d.length = size := by
  have hU := U64_eq
  unfold getData
  dsimp only
  generalize hst : (if start > data.length then data.length else start) = st
  have hst' : st ≤ data.length := by rw [← hst]; split <;> omega
  rw [Nat.mod_eq_of_lt (show st + size < U64 by omega)]
  generalize he : (if st + size > data.length then data.length else st + size) = e
  have he' : st ≤ e ∧ e ≤ data.length ∧ e ≤ st + size := by rw [← he]; split <;> omega
  rw [goSlice_inside data he'.1 he'.2.1 (Nat.le_refl _)]
  refine ⟨_, rfl, ?_⟩
  rw [if_pos hs]
  exact rightPad_length _ _ (by simp [List.extract_eq_take_drop]; omega)

theorem getData_safe (data : Bytes) (start size : Nat) (hd : data.length < 2 ^ 62) (hs : size < 2 ^ 62) :
    ∃ d, getData data start size = .ok d :=
  let ⟨d, h, _⟩ := getData_ok data start size (by omega) (by omega)
  ⟨d, h⟩

theorem mod_U64_lt (x : Nat) : x % U64 < U64 := Nat.mod_lt _ (by decide)

theorem memSet_length {store m : Bytes} {off size : Nat} {v : Bytes} (ho : off < U64) (hs : size < U64)
    (h : memSet store off size v = .ok m) : m.length = store.length := by
  have hU := U64_eq
  unfold memSet at h
  (repeat' split at h) <;> cases h
  · rfl
  · -- the two guards that passed say the uint64 sum `off + size` did not wrap and ends inside the store
    refine writeAt_length _ _ _ _ ?_
    by_cases hw : off + size < U64
    · rw [Nat.mod_eq_of_lt hw] at *; omega
    · rw [Nat.mod_eq_sub_mod (by omega), Nat.mod_eq_of_lt (by omega)] at *; omega

theorem memSet32_length {store m : Bytes} {off : Nat} {v : Word} (h : memSet32 store off v = .ok m) :
    m.length = store.length := by
  unfold memSet32 at h
  (repeat' split at h) <;> cases h
  exact writeAt_length _ _ _ _ (by omega)

theorem memCopyGo_length {store m : Bytes} {cap dst src len : Nat} (h : memCopyGo store cap dst src len = .ok m) :
    m.length = store.length := by
  unfold memCopyGo at h
  (repeat' split at h) <;> cases h
  · rfl
  · simp only [List.length_append, List.length_take, List.length_drop]
    omega

/-- `execute` went on from `s` to `s'`: it changed stack, memory content, pc, world and tracer, nothing else -/
structure ExecNext (env : IEnv World) (i : Instr) (s s' : IState World) : Prop where
  gas      : s'.gas = s.gas
  last     : s'.last = s.last
  rdata    : s'.rdata = s.rdata
  readOnly : s'.readOnly = s.readOnly
  memLen   : s'.mem.length = s.mem.length
  stack    : s'.stack.length + i.pops = s.stack.length + i.pushes
  pc       : env.abort = true → s.pc < s'.pc
  tr       : i.isJournal = false → s'.tr = s.tr

def ExecOut (env : IEnv World) (i : Instr) (s : IState World) : Out (IState World) → Prop
  | .next s' => ExecNext env i s s'
  | .halt _ g => g = s.gas
  | .panic _ => True

/-- The case analysis of `execute` for everything that does not depend on operand values.  Every branch ends in a panic, a halt with `s.gas`, or a record update of `s`; of such
    an update the four untouched fields are `rfl`, and what is left is: memory is untouched or comes from one of the four writers,
    the stack follows the pattern `hst`, pc grows unless by a jump (none under abort), only a journal instruction touches `tr`. -/
theorem exec_out {env : IEnv World} {i : Instr} {s : IState World} {o : Out (IState World)} (h : exec env i s = o) :
    ExecOut env i s o := by
  subst h
  cases i
  all_goals
    dsimp only [exec, IState.cont, stackPanic]
    generalize hst : s.stack = st
    repeat' split
  all_goals first
    | exact True.intro
    | exact rfl
    | exact ⟨rfl, rfl, rfl, rfl,
        -- `with_reducible`: a writer's lemma tried on another writer's hypothesis must fail at once, not unfold both
        by with_reducible first
          | exact rfl
          | exact memSet_length (mod_U64_lt _) (mod_U64_lt _) ‹_›
          | exact memSet32_length ‹_›
          | exact memCopyGo_length ‹_›
          | exact List.length_set ..,
        by simp only [hst, List.length_cons, List.length_set, List.length_drop, Instr.pops, Instr.pushes] <;> omega,
        by intro ha; first | exact absurd ha ‹_› | (dsimp only; omega),
        by first | exact fun _ => rfl | (intro h; cases h)⟩

theorem exec_next {env : IEnv World} {i : Instr} {s s' : IState World} (h : exec env i s = .next s') : ExecNext env i s s' :=
  exec_out h

theorem memResize_length (mem : Bytes) (m : Nat) : (memResize mem m).length = max mem.length m := by
  unfold memResize
  split
  · simp only [List.length_append, List.length_replicate]; omega
  · omega

theorem memResize_zero (mem : Bytes) : memResize mem 0 = mem := if_neg (Nat.not_lt_zero _)

/-- the loop skips `Resize` for size 0, where it would do nothing -/
theorem memResize_if (mem : Bytes) (m : Nat) : (if m > 0 then memResize mem m else mem) = memResize mem m := by
  split
  · rfl
  · rw [show m = 0 by omega, memResize_zero]

/-! A summary `XOut` says what each outcome of stage `X` means; its lemma `X_out h` takes `h : X … = o`: the inversion for the `o`
    a case split has produced, and with `rfl` a statement about the call itself. -/

/-- `next`: 0 without a size function, else the size asked for, in whole words and below 2^64; a panic: an operand outside the stack -/
def MemOut (row : Row) (s : IState World) : Out Nat → Prop
  | .next m => (row.mem = "-" ∧ m = 0) ∨
      (row.mem ≠ "-" ∧ ∃ msz, memSizeOf row.mem s.stack = some (some (msz, false)) ∧ m = toWordSize msz * 32 ∧ m < U64)
  | .halt _ g => g = s.gas
  | .panic _ => memSizeOf row.mem s.stack = some none

theorem memPart_out {op : Nat} {row : Row} {s : IState World} {o : Out Nat} (h : memPart op row s = o) : MemOut row s o := by
  subst h
  unfold memPart
  split
  · exact Or.inl ⟨‹_›, rfl⟩
  · split
    · exact rfl
    · assumption
    · rename_i msz ovf hs
      split
      · exact rfl
      · split
        · exact rfl
        · cases ovf
          · exact Or.inr ⟨‹_›, msz, hs, rfl, by omega⟩
          · contradiction

/-- what a dynamic-gas function of vm/gas_table.go charges on top of the memory fee -/
def dynExtra (name : String) (st : List Word) : Nat :=
  if name = "memoryCopierGas" then toWordSize ((back st 2).getD 0) * 3
  else if name = "gasKeccak256" then toWordSize ((back st 1).getD 0) * 6
  else if name = "gasExpFrontier" then byteLen 32 ((back st 1).getD 0) * 10 + 10
  else if name = "gasExpEIP158" then byteLen 32 ((back st 1).getD 0) * 50 + 10
  else if name = "makeGasJournal" then journalFee
  else 0

/-- stack items a dynamic-gas function looks at -/
def dynNeed (name : String) : Nat :=
  if name = "memoryCopierGas" then 3 else if name = "gasExpFrontier" ∨ name = "gasExpEIP158" ∨ name = "gasKeccak256" then 2 else 0

/-- a gas function either charges `memoryGasCost` plus `dynExtra` and returns its new `lastGasCost`, or charges `dynExtra` alone
    and leaves `lastGasCost`; it indexes outside the stack only below `dynNeed` items -/
def DynSpec (name : String) (st : List Word) (len last m : Nat) : Dyn → Prop
  | .cost c l =>
    ((name = "pureMemoryGascost" ∨ name = "memoryCopierGas" ∨ name = "gasKeccak256") ∧
      ∃ g, memoryGasCost len last m = some (g, l) ∧ c = g + dynExtra name st) ∨
    ((name ≠ "pureMemoryGascost" ∧ name ≠ "memoryCopierGas" ∧ name ≠ "gasKeccak256") ∧ l = last ∧ c = dynExtra name st)
  | .stackPanic => st.length < dynNeed name
  | _ => True

theorem back_none {st : List Word} {n : Nat} (h : back st n = none) : st.length ≤ n := List.getElem?_eq_none_iff.mp h

theorem dynGasOf_out {name : String} {st : List Word} {len last m : Nat} {d : Dyn} (h : dynGasOf name st len last m = d) :
    DynSpec name st len last m d := by
  subst h
  unfold dynGasOf
  by_cases h1 : name = "pureMemoryGascost"
  · rw [if_pos h1]
    split
    · rename_i hg; exact Or.inl ⟨.inl h1, _, hg, by simp [dynExtra, h1]⟩
    · trivial
  rw [if_neg h1]
  by_cases h2 : name = "memoryCopierGas"
  · rw [if_pos h2]
    split
    · rename_i hb; have := back_none hb; simp only [DynSpec, dynNeed, if_pos h2]; omega
    · rename_i n hb
      split
      · rename_i hg
        obtain ⟨g, hm, _, hc⟩ := gasMcopy_some hg
        exact Or.inl ⟨.inr (.inl h2), g, hm, by simp [dynExtra, h2, hb, hc]⟩
      · trivial
  rw [if_neg h2]
  by_cases h3 : name = "gasKeccak256"
  · rw [if_pos h3]
    split
    · rename_i hb; have := back_none hb; simp only [DynSpec, dynNeed, if_neg h2, if_pos (Or.inr (Or.inr h3))]; omega
    · rename_i n hb
      split
      · trivial
      · rename_i hg
        (repeat' split) <;> first | trivial | skip
        exact Or.inl ⟨.inr (.inr h3), _, hg, by simp [dynExtra, h3, hb]⟩
  rw [if_neg h3]
  by_cases h4 : name = "gasExpFrontier"
  · rw [if_pos h4]
    split
    · rename_i hb; have := back_none hb; simp only [DynSpec, dynNeed, if_neg h2, if_pos (Or.inl h4)]; omega
    · rename_i e hb; exact Or.inr ⟨⟨h1, h2, h3⟩, rfl, by simp [dynExtra, h4, hb]⟩
  rw [if_neg h4]
  by_cases h5 : name = "gasExpEIP158"
  · rw [if_pos h5]
    split
    · rename_i hb; have := back_none hb; simp only [DynSpec, dynNeed, if_neg h2, if_pos (Or.inr (Or.inl h5))]; omega
    · rename_i e hb; exact Or.inr ⟨⟨h1, h2, h3⟩, rfl, by simp [dynExtra, h5, hb]⟩
  rw [if_neg h5]
  split
  · rename_i h6; exact Or.inr ⟨⟨h1, h2, h3⟩, rfl, by simp [dynExtra, h6]⟩
  · trivial

/-- `next`: the dynamic gas `c` is paid, `lastGasCost` updated, memory resized to `m`; a halt reports the gas found -/
def GasOut (row : Row) (s : IState World) (m : Nat) : Out (IState World) → Prop
  | .next s1 => ∃ c l, dynGasOf row.dyn s.stack s.mem.length s.last m = .cost c l ∧ c ≤ s.gas ∧
      s1 = { s with gas := s.gas - c, last := l, mem := memResize s.mem m }
  | .halt _ g => g = s.gas
  | .panic _ => s.stack.length < dynNeed row.dyn

theorem gasPart_out {op : Nat} {row : Row} {s : IState World} {m : Nat} {o : Out (IState World)} (h : gasPart op row s m = o) :
    GasOut row s m o := by
  subst h
  unfold gasPart
  split
  · exact rfl
  · exact dynGasOf_out ‹_›
  · exact rfl
  · rename_i c l hc
    split
    · exact rfl
    · exact ⟨c, l, hc, by omega, by rw [memResize_if]⟩

/-- `next`: no dynamic-gas function and the state as it was, or the size `memPart` computed, charged by `dynGasOf` and resized to;
    a halt reports the gas `dynPart` was entered with; a panic is `memPart`'s or `gasPart`'s -/
def DynOut (op : Nat) (row : Row) (s : IState World) : Out (IState World) → Prop
  | .next s1 => (row.dyn = "-" ∧ s1 = s) ∨
      (row.dyn ≠ "-" ∧ ∃ m c l, memPart op row s = .next m ∧ dynGasOf row.dyn s.stack s.mem.length s.last m = .cost c l ∧
        c ≤ s.gas ∧ s1 = { s with gas := s.gas - c, last := l, mem := memResize s.mem m })
  | .halt _ g => g = s.gas
  | .panic _ => memSizeOf row.mem s.stack = some none ∨ s.stack.length < dynNeed row.dyn

theorem dynPart_out {op : Nat} {row : Row} {s : IState World} {o : Out (IState World)} (h : dynPart op row s = o) :
    DynOut op row s o := by
  subst h
  unfold dynPart
  split
  · exact Or.inl ⟨‹_›, rfl⟩
  · split <;> rename_i hmp <;> have hm := memPart_out hmp
    · exact hm
    · exact Or.inl hm
    · rename_i m
      cases hgp : gasPart op row s m <;> have hg := gasPart_out hgp
      · obtain ⟨c, l, hc, hle, hs1⟩ := hg
        exact Or.inr ⟨‹_›, m, c, l, hmp, hc, hle, hs1⟩
      · exact hg
      · exact Or.inr hg

theorem dynPart_frame {op : Nat} {row : Row} {s s1 : IState World} (h : dynPart op row s = .next s1) :
    s1.stack = s.stack ∧ s1.pc = s.pc ∧ s1.rdata = s.rdata ∧ s1.readOnly = s.readOnly ∧ s1.world = s.world ∧
    s1.tr = s.tr ∧ s.mem.length ≤ s1.mem.length := by
  obtain ⟨_, rfl⟩ | ⟨_, m, _, _, _, _, _, rfl⟩ := dynPart_out h
  · exact ⟨rfl, rfl, rfl, rfl, rfl, rfl, Nat.le_refl _⟩
  · exact ⟨rfl, rfl, rfl, rfl, rfl, rfl, by rw [memResize_length]; exact Nat.le_max_left _ _⟩

/-- the part before `execute`: it hands over after the table lookup, the row's stack bounds and constant fee and `dynPart`; a halt
    reports at most the gas the iteration started with; it panics only where `dynPart` does -/
def PreOut (env : IEnv World) (s : IState World) : Out (Instr × IState World) → Prop
  | .next (i, s1) => ∃ row, env.table (opAt env.code s.pc) = some row ∧ decode row.exec (opAt env.code s.pc) = some i ∧
      row.minStack ≤ s.stack.length ∧ s.stack.length ≤ row.maxStack ∧ row.cgas ≤ s.gas ∧
      dynPart (opAt env.code s.pc) row { s with gas := s.gas - row.cgas } = .next s1
  | .halt _ g => g ≤ s.gas
  | .panic p => ∃ row i, env.table (opAt env.code s.pc) = some row ∧ decode row.exec (opAt env.code s.pc) = some i ∧
      row.minStack ≤ s.stack.length ∧ dynPart (opAt env.code s.pc) row { s with gas := s.gas - row.cgas } = .panic p

theorem pre_out {env : IEnv World} {s : IState World} {o : Out (Instr × IState World)} (h : pre env s = o) : PreOut env s o := by
  subst h
  unfold pre
  dsimp only
  cases hr : env.table (opAt env.code s.pc) with
  | none => exact Nat.le_refl _
  | some row =>
    dsimp only
    cases hd : decode row.exec (opAt env.code s.pc) with
    | none => exact Nat.le_refl _
    | some i =>
      dsimp only
      (repeat' split) <;> first | exact Nat.le_refl _ | skip
      all_goals rename_i hdp; have hg := dynPart_out hdp
      · exact ⟨row, hr, hd, by omega, by omega, by omega, hdp⟩
      · exact hg ▸ Nat.sub_le _ _
      · exact ⟨row, i, hr, hd, by omega, hdp⟩

/-- what the part before `execute` went through when it hands an instruction over -/
theorem pre_next_inv {env : IEnv World} {s s1 : IState World} {i : Instr} (h : pre env s = .next (i, s1)) :
    ∃ row, env.table (opAt env.code s.pc) = some row ∧ decode row.exec (opAt env.code s.pc) = some i ∧
      row.minStack ≤ s.stack.length ∧ s.stack.length ≤ row.maxStack ∧ row.cgas ≤ s.gas ∧
      dynPart (opAt env.code s.pc) row { s with gas := s.gas - row.cgas } = .next s1 := pre_out h

theorem stepWith_next {ex : IEnv World → Instr → IState World → Out (IState World)} {env : IEnv World} {s s' : IState World}
    (h : stepWith ex env s = .next s') : ∃ i s1, pre env s = .next (i, s1) ∧ ex env i s1 = .next s' := by
  unfold stepWith at h
  split at h
  · exact ⟨_, _, ‹_›, h⟩
  · cases h
  · cases h

theorem stepWith_of_pre {ex : IEnv World → Instr → IState World → Out (IState World)} {env : IEnv World} {s s1 : IState World}
    {i : Instr} (hp : pre env s = .next (i, s1)) : stepWith ex env s = ex env i s1 := by
  unfold stepWith; rw [hp]

/-- what a continuing iteration went through -/
theorem step_next_inv {env : IEnv World} {s s' : IState World} (h : step env s = .next s') :
    ∃ row i s1, env.table (opAt env.code s.pc) = some row ∧ decode row.exec (opAt env.code s.pc) = some i ∧
      row.minStack ≤ s.stack.length ∧ s.stack.length ≤ row.maxStack ∧ row.cgas ≤ s.gas ∧
      dynPart (opAt env.code s.pc) row { s with gas := s.gas - row.cgas } = .next s1 ∧ exec env i s1 = .next s' := by
  obtain ⟨i, s1, hp, hex⟩ := stepWith_next h
  obtain ⟨row, a, b, c, d, e, f⟩ := pre_next_inv hp
  exact ⟨row, i, s1, a, b, c, d, e, f, hex⟩

theorem run_inv {env : IEnv World} {I : IState World → Prop} {Q : Out (IState World) → Prop} (h0 : ∀ s, I s → Q (.next s))
    (hstep : ∀ s, I s → Q (step env s) ∧ ∀ s', step env s = .next s' → I s') : ∀ n s, I s → Q (run env n s)
  | 0, s, hs => h0 s hs
  | n + 1, s, hs => by
    obtain ⟨hq, hi⟩ := hstep s hs
    unfold run
    split
    · exact run_inv h0 hstep n _ (hi _ ‹_›)
    · exact hq

/-- a measure every continuing step lowers bounds the iteration count -/
theorem run_measure {env : IEnv World} {μ : IState World → Nat} (hμ : ∀ s s', step env s = .next s' → μ s' < μ s) :
    ∀ n s s', run env n s = .next s' → μ s' + n ≤ μ s
  | 0, s, s', h => by cases h; exact Nat.le_refl _
  | n + 1, s, s', h => by
    unfold run at h
    split at h
    · have := hμ s _ ‹_›
      have := run_measure hμ n _ s' h
      omega
    · exact absurd h (‹∀ s', _ = Out.next s' → False› s')

end Interp
end Artela
