import Artela.Model.CallTree
import Artela.Proofs.ArenaKit
import Artela.Proofs.FoldKit
/-
  Helper lemmas for C07: the well-formedness invariant of the call tree and its preservation
  by `add` and `exit`.
-/
namespace Artela
namespace CallTree

/-- Well-formedness of the recorded call tree (C07). -/
structure WF (t : CallTree) : Prop where
  /-- indices are dense: the counter is the number of nodes -/
  count_eq : t.count = t.nodes.length
  /-- looking a node up by index returns the node carrying that index -/
  index_eq : ∀ (i : Nat) (n : CallNode), t.nodes[i]? = some n → n.index = i
  /-- the cursor, if any, denotes a recorded node -/
  cur_lt : ∀ (c : Nat), t.current = some c → c < t.nodes.length
  /-- the root is the first node ever recorded -/
  root_def : t.root = if t.nodes.length = 0 then none else some 0
  /-- a parent has a smaller index … -/
  parent_lt : ∀ (i : Nat) (n : CallNode) (p : Nat), t.nodes[i]? = some n → n.parent = some p → p < i
  /-- … and lists the node among its children -/
  parent_lists : ∀ (i : Nat) (n : CallNode) (p : Nat), t.nodes[i]? = some n → n.parent = some p →
      ∃ pn, t.nodes[p]? = some pn ∧ i ∈ pn.children
  /-- every listed child is a recorded node whose parent is the lister (so the parent is unique) -/
  child_parent : ∀ (p : Nat) (pn : CallNode) (c : Nat), t.nodes[p]? = some pn → c ∈ pn.children →
      ∃ cn, t.nodes[c]? = some cn ∧ cn.parent = some p
  /-- children are listed in strictly increasing index order (hence exactly once) -/
  children_sorted : ∀ (p : Nat) (pn : CallNode), t.nodes[p]? = some pn → pn.children.Pairwise (· < ·)

theorem wf_empty : WF CallTree.empty := by
  refine ⟨rfl, ?_, ?_, rfl, ?_, ?_, ?_, ?_⟩ <;> simp [CallTree.empty]

theorem WF.child_lt {t : CallTree} (h : WF t) {p : Nat} {pn : CallNode} {c : Nat}
    (hp : t.nodes[p]? = some pn) (hc : c ∈ pn.children) : c < t.nodes.length := by
  obtain ⟨cn, hcn, _⟩ := h.child_parent p pn c hp hc
  exact (List.getElem?_eq_some_iff.mp hcn).1

theorem pairwise_append_single {l : List Nat} {x : Nat} (hl : l.Pairwise (· < ·)) (hx : ∀ y ∈ l, y < x) :
    (l ++ [x]).Pairwise (· < ·) := by
  rw [List.pairwise_append]
  refine ⟨hl, by simp, ?_⟩
  intro a ha b hb
  simp at hb
  subst hb
  exact hx a ha

theorem add_nodes_length (t : CallTree) (f : Addr) (to : Option Addr) (d : Bytes) (v g : Nat) :
    (t.add f to d v g).nodes.length = t.nodes.length + 1 := by
  unfold add; cases t.current <;> simp

theorem add_nodes_old {t : CallTree} (f : Addr) (to : Option Addr) (d : Bytes) (v g : Nat) {i : Nat} {n0 : CallNode}
    (h0 : t.nodes[i]? = some n0) :
    (t.add f to d v g).nodes[i]? = some (if t.current = some i then pushChild t.count n0 else n0) := by
  unfold add
  refine getElem_opt_concat_some.mpr (Or.inl ?_)
  cases t.current with
  | none => exact h0
  | some p => simpa using modify_get t.nodes p i _ n0 h0

theorem add_nodes_new {t : CallTree} (hc : t.count = t.nodes.length) (f : Addr) (to : Option Addr) (d : Bytes) (v g : Nat) :
    (t.add f to d v g).nodes[t.count]? = some (mkNode f to d v g t.count t.current) := by
  unfold add
  refine getElem_opt_concat_some.mpr (Or.inr ⟨?_, rfl⟩)
  cases t.current <;> simp [hc]

theorem add_nodes_cases {t : CallTree} (hc : t.count = t.nodes.length) {f : Addr} {to : Option Addr} {d : Bytes} {v g : Nat} {i : Nat} {n : CallNode}
    (hn : (t.add f to d v g).nodes[i]? = some n) :
    (∃ n0, t.nodes[i]? = some n0 ∧ n = (if t.current = some i then pushChild t.count n0 else n0)) ∨
    (i = t.nodes.length ∧ n = mkNode f to d v g t.count t.current) := by
  by_cases hi : i < t.nodes.length
  · obtain ⟨n0, h0⟩ : ∃ n0, t.nodes[i]? = some n0 := ⟨_, List.getElem?_eq_getElem hi⟩
    exact Or.inl ⟨n0, h0, Option.some.inj (hn.symm.trans (add_nodes_old f to d v g h0))⟩
  · have := (List.getElem?_eq_some_iff.mp hn).1
    rw [add_nodes_length] at this
    obtain rfl : i = t.nodes.length := by omega
    exact Or.inr ⟨rfl, Option.some.inj (hn.symm.trans (hc ▸ add_nodes_new hc f to d v g))⟩

theorem ite_pushChild_index (c : Prop) [Decidable c] (k : Nat) (n : CallNode) : (if c then pushChild k n else n).index = n.index := by
  split <;> rfl

theorem ite_pushChild_parent (c : Prop) [Decidable c] (k : Nat) (n : CallNode) : (if c then pushChild k n else n).parent = n.parent := by
  split <;> rfl

theorem add_wf {t : CallTree} (h : WF t) (f : Addr) (to : Option Addr) (d : Bytes) (v g : Nat) :
    WF (t.add f to d v g) := by
  have hc := h.count_eq
  refine ⟨?_, ?_, ?_, ?_, ?_, ?_, ?_, ?_⟩
  · rw [add_nodes_length]; simp [add, hc]
  · intro i n hn
    rcases add_nodes_cases hc hn with ⟨n0, h0, rfl⟩ | ⟨rfl, rfl⟩
    · rw [ite_pushChild_index]; exact h.index_eq i n0 h0
    · simp [mkNode, hc]
  · intro c hcc
    rw [add_nodes_length]
    simp [add] at hcc
    omega
  · rw [add_nodes_length]
    simp only [add, h.root_def]
    by_cases hz : t.nodes.length = 0
    · simp [hz, hc]
    · simp [hz]
  · intro i n p hn hp
    rcases add_nodes_cases hc hn with ⟨n0, h0, rfl⟩ | ⟨rfl, rfl⟩
    · rw [ite_pushChild_parent] at hp
      exact h.parent_lt i n0 p h0 hp
    · simp only [mkNode] at hp
      exact h.cur_lt p hp
  · intro i n p hn hp
    rcases add_nodes_cases hc hn with ⟨n0, h0, rfl⟩ | ⟨rfl, rfl⟩
    · rw [ite_pushChild_parent] at hp
      obtain ⟨pn, hpn, hmem⟩ := h.parent_lists i n0 p h0 hp
      refine ⟨_, add_nodes_old f to d v g hpn, ?_⟩
      split
      · simp [pushChild, hmem]
      · exact hmem
    · simp only [mkNode] at hp
      have hpl := h.cur_lt p hp
      obtain ⟨cn, hcn⟩ : ∃ cn, t.nodes[p]? = some cn := ⟨_, List.getElem?_eq_some_iff.mpr ⟨hpl, rfl⟩⟩
      refine ⟨_, add_nodes_old f to d v g hcn, ?_⟩
      simp [hp, pushChild, hc]
  · intro p pn c hp hcm
    rcases add_nodes_cases hc hp with ⟨n0, h0, rfl⟩ | ⟨rfl, rfl⟩
    · have hcm' : c ∈ n0.children ∨ (t.current = some p ∧ c = t.count) := by
        split at hcm
        · next hcp => simpa [pushChild, hcp] using hcm
        · exact Or.inl hcm
      rcases hcm' with hcm | ⟨hcp, rfl⟩
      · obtain ⟨cn, hcn, hpar⟩ := h.child_parent p n0 c h0 hcm
        exact ⟨_, add_nodes_old f to d v g hcn, by rw [ite_pushChild_parent]; exact hpar⟩
      · exact ⟨_, add_nodes_new hc f to d v g, by simp [mkNode, hcp]⟩
    · simp [mkNode] at hcm
  · intro p pn hp
    rcases add_nodes_cases hc hp with ⟨n0, h0, rfl⟩ | ⟨rfl, rfl⟩
    · have hs := h.children_sorted p n0 h0
      split
      · simp only [pushChild]
        apply pairwise_append_single hs
        intro y hy
        have := h.child_lt h0 hy
        omega
      · exact hs
    · simp [mkNode]

theorem exit_of_current {t : CallTree} {c : Nat} {n : CallNode} (hc : t.current = some c) (hn : t.nodes[c]? = some n)
    (l : Nat) (r : Option Bytes) (e : Option String) :
    t.exit l r e = { t with nodes := t.nodes.modify c (setResult l r e), current := n.parent } := by
  simp only [exit, hc, hn]

/-- `exit` either finds nothing to close, or stamps the result on the current node and moves the cursor to its parent -/
theorem exit_cases (t : CallTree) (l : Nat) (r : Option Bytes) (e : Option String) :
    t.exit l r e = t ∨ ∃ c n, t.current = some c ∧ t.nodes[c]? = some n ∧
      t.exit l r e = { t with nodes := t.nodes.modify c (setResult l r e), current := n.parent } := by
  cases hc : t.current with
  | none => exact .inl (by simp only [exit, hc])
  | some c =>
    cases hn : t.nodes[c]? with
    | none => exact .inl (by simp only [exit, hc, hn])
    | some n => exact .inr ⟨c, n, rfl, hn, exit_of_current hc hn l r e⟩

theorem exit_wf {t : CallTree} (h : WF t) (l : Nat) (r : Option Bytes) (e : Option String) :
    WF (t.exit l r e) := by
  rcases exit_cases t l r e with heq | ⟨c, n, hcur, hn, heq⟩
  · rw [heq]; exact h
  rw [heq]
  -- `setResult` writes only `remGas`, `ret`, `err`, which `WF` never reads
  have look : ∀ (i : Nat) (m : CallNode),
      (t.nodes.modify c (setResult l r e))[i]? = some m →
      ∃ m0, t.nodes[i]? = some m0 ∧ m.index = m0.index ∧ m.parent = m0.parent ∧ m.children = m0.children := by
    intro i m hm
    obtain ⟨m0, h0, rfl⟩ := getElem_opt_modify_some' _ _ _ _ _ hm
    refine ⟨m0, h0, ?_⟩
    split <;> exact ⟨rfl, rfl, rfl⟩
  have look' : ∀ (i : Nat) (m0 : CallNode), t.nodes[i]? = some m0 →
      ∃ m, (t.nodes.modify c (setResult l r e))[i]? = some m ∧
        m.index = m0.index ∧ m.parent = m0.parent ∧ m.children = m0.children := by
    intro i m0 h0
    refine ⟨_, modify_get _ c i _ m0 h0, ?_⟩
    split <;> exact ⟨rfl, rfl, rfl⟩
  refine ⟨?_, ?_, ?_, ?_, ?_, ?_, ?_, ?_⟩
  · simpa using h.count_eq
  · intro i m hm
    obtain ⟨m0, h0, hi, _, _⟩ := look i m hm
    rw [hi]; exact h.index_eq i m0 h0
  · intro c' hc'
    simp only [List.length_modify]
    have := h.parent_lt c n c' hn hc'
    have := h.cur_lt c hcur
    omega
  · simpa using h.root_def
  · intro i m p hm hp
    obtain ⟨m0, h0, _, hpar, _⟩ := look i m hm
    exact h.parent_lt i m0 p h0 (hpar ▸ hp)
  · intro i m p hm hp
    obtain ⟨m0, h0, _, hpar, _⟩ := look i m hm
    obtain ⟨pn, hpn, hmem⟩ := h.parent_lists i m0 p h0 (hpar ▸ hp)
    obtain ⟨pn', hpn', _, _, hch⟩ := look' p pn hpn
    exact ⟨pn', hpn', hch ▸ hmem⟩
  · intro p pn c' hp hcm
    obtain ⟨pn0, h0, _, _, hch⟩ := look p pn hp
    obtain ⟨cn, hcn, hpar⟩ := h.child_parent p pn0 c' h0 (hch ▸ hcm)
    obtain ⟨cn', hcn', _, hpar', _⟩ := look' c' cn hcn
    exact ⟨cn', hcn', hpar' ▸ hpar⟩
  · intro p pn hp
    obtain ⟨pn0, h0, _, _, hch⟩ := look p pn hp
    rw [hch]; exact h.children_sorted p pn0 h0

theorem step_wf {t : CallTree} (h : WF t) (op : Op) : WF (t.step op) := by
  cases op with
  | add f to d v g => exact add_wf h f to d v g
  | exit l r e => exact exit_wf h l r e

theorem run_wf {t : CallTree} (h : WF t) (ops : List Op) : WF (t.run ops) :=
  foldl_inv (I := WF) (fun _ op hs => step_wf hs op) ops t h

end CallTree
end Artela
