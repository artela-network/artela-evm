import Artela.Proofs.FrameShape
/-  `reachesCode`, and what `callEnding` is on either side of it. -/
namespace Artela
namespace Frame

/-- the condition under which `EVM.Call` reaches the contract's code (and therefore its join points) -/
def reachesCode (depth : Nat) (value : Nat) (f : EnterFacts) : Prop :=
  ¬ depth > 1024 ∧ ¬ (value ≠ 0 ∧ ¬ f.canTransfer) ∧ ¬ (¬ f.exists_ ∧ f.precompile.isNone ∧ f.eip158 ∧ value = 0) ∧
  f.precompile = none ∧ f.codeEmpty = false

instance (depth value : Nat) (f : EnterFacts) : Decidable (reachesCode depth value f) := by unfold reachesCode; infer_instance

/-- once `Call` reaches the code, only the pre join point decides -/
theorem callEnding_of_reachesCode {d v : Nat} {f : EnterFacts} (h : reachesCode d v f) (g : Nat) :
    callEnding d v g f =
      if f.jpEnabled then
        match f.pre.err with
        | some e => .answered true f.pre.ret f.pre.gas (some (normaliseOOG e))
        | none => .runs true f.pre.gas
      else .runs false g := by
  obtain ⟨h1, h2, h3, h4, h5⟩ := h
  unfold callEnding
  rw [if_neg h1, if_neg h2, if_neg h3, h4, h5]
  rfl

/-- short of the code, no join point is consulted and no interpreter starts -/
theorem callEnding_of_not_reachesCode {d v : Nat} {f : EnterFacts} (h : ¬ reachesCode d v f) (g : Nat) :
    (callEnding d v g f).jp = false ∧ ∀ jp ig, callEnding d v g f ≠ .runs jp ig := by
  unfold callEnding
  by_cases h1 : d > 1024
  · rw [if_pos h1]; exact ⟨rfl, nofun⟩
  rw [if_neg h1]
  by_cases h2 : v ≠ 0 ∧ ¬ f.canTransfer
  · rw [if_pos h2]; exact ⟨rfl, nofun⟩
  rw [if_neg h2]
  by_cases h3 : ¬ f.exists_ ∧ f.precompile.isNone ∧ f.eip158 ∧ v = 0
  · rw [if_pos h3]; exact ⟨rfl, nofun⟩
  rw [if_neg h3]
  cases hp : f.precompile with
  | some x => exact ⟨rfl, nofun⟩
  | none =>
    cases hc : f.codeEmpty with
    | true => exact ⟨rfl, nofun⟩
    | false => exact absurd ⟨h1, h2, h3, hp, hc⟩ h

theorem callEnding_jp_iff (d v g : Nat) (f : EnterFacts) :
    (callEnding d v g f).jp = true ↔ reachesCode d v f ∧ f.jpEnabled = true := by
  by_cases hr : reachesCode d v f
  · rw [callEnding_of_reachesCode hr]
    cases hj : f.jpEnabled with
    | false => exact ⟨nofun, nofun⟩
    | true => cases f.pre.err <;> exact ⟨fun _ => ⟨hr, rfl⟩, fun _ => rfl⟩
  · rw [(callEnding_of_not_reachesCode hr g).1]
    exact ⟨nofun, fun h => absurd h.1 hr⟩

end Frame
end Artela
