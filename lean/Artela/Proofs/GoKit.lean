import Artela.Model.Journal
import Artela.Proofs.BytesKit
/-  Go's partial operations (`goSlice`, `toInt64`, `addInt64`, `memGetCopy` of Model/Journal.lean) inside their bounds, and `Res`. -/
namespace Artela

/-- what a `do` block in `Res` that returned normally went through -/
theorem Res.bind_eq_ok {α β} {r : Res α} {f : α → Res β} {y : β} : r.bind f = .ok y ↔ ∃ x, r = .ok x ∧ f x = .ok y := by
  cases r <;> simp [Res.bind]

theorem maxAlloc_eq : maxAlloc = 140737488355328 := by decide

/-- the Go guard `!x.IsUint64() || x.Uint64() > b` -/
theorem u64_guard {x b : Nat} (hb : b < U64) : (x ≥ U64 ∨ x % U64 > b) ↔ x > b := by
  by_cases h : x < U64
  · rw [Nat.mod_eq_of_lt h]; omega
  · omega

theorem goSlice_ok (s : Bytes) (cap lo hi : Nat) (h : lo ≤ hi ∧ hi ≤ cap) : ∃ v, goSlice s cap lo hi = .ok v := by
  unfold goSlice; rw [if_pos h]; exact ⟨_, rfl⟩

/-- inside the length neither the capacity nor the stale bytes behind the length matter -/
theorem goSlice_inside (s : Bytes) {cap lo hi : Nat} (h1 : lo ≤ hi) (h2 : hi ≤ s.length) (h3 : s.length ≤ cap) :
    goSlice s cap lo hi = .ok (s.extract lo hi) := by
  unfold goSlice
  rw [if_pos ⟨h1, by omega⟩, List.extract_eq_take_drop, List.extract_eq_take_drop,
    List.drop_append_of_le_length (by omega), List.take_append_of_le_length (by rw [List.length_drop]; omega)]

theorem goSlice_take (s : Bytes) (cap len : Nat) (h1 : len ≤ s.length) (h2 : s.length ≤ cap) :
    goSlice s cap 0 len = .ok (s.take len) := by
  rw [goSlice_inside s (Nat.zero_le _) h1 h2, List.extract_eq_take_drop, List.drop_zero, Nat.sub_zero]

theorem toInt64_small (x : Nat) (h : x < 2 ^ 63) : toInt64 x = (x : Int) := by
  have hU := U64_eq
  unfold toInt64
  rw [Nat.mod_eq_of_lt (by omega), if_pos h]

theorem toInt64_mod (x : Nat) (h : x < 2 ^ 63) : toInt64 (x % U64) = (x : Int) := by
  have hU := U64_eq
  rw [Nat.mod_eq_of_lt (by omega), toInt64_small x h]

theorem addInt64_small (a b : Nat) (h : a + b < 2 ^ 63) : addInt64 (a : Int) (b : Int) = ((a + b : Nat) : Int) := by
  have hU := U64_eq
  unfold addInt64
  have e : ((a : Int) + (b : Int)) % (U64 : Int) = ((a + b : Nat) : Int) := by
    rw [hU]; omega
  rw [e, Int.toNat_natCast, toInt64_small _ h]

/-- `r` is nil for an empty range, hence `getD` -/
theorem memGetCopy_inside (mem : Bytes) (cap off size : Nat)
    (h1 : off + size ≤ mem.length) (h2 : mem.length ≤ cap) (h3 : mem.length ≤ maxAlloc) :
    ∃ r, memGetCopy mem cap (off : Int) (size : Int) = (.ok r, { copied := size, alloc := size }) ∧
      r.getD [] = mem.extract off (off + size) := by
  have hM := maxAlloc_eq
  unfold memGetCopy
  by_cases hs : size = 0
  · subst hs; exact ⟨none, rfl, by simp⟩
  · rw [if_neg (by omega), if_pos (by omega), if_neg (by omega), if_neg (by omega), addInt64_small off size (by omega),
      if_neg (by omega)]
    simp only [Int.toNat_natCast]
    rw [goSlice_inside mem (by omega) h1 h2]
    exact ⟨_, rfl, rfl⟩

end Artela
