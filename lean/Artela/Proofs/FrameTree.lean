import Artela.Proofs.FrameShape
import Artela.Proofs.CallTreeBalanced
import Artela.Proofs.FoldKit
/-
  The call tree under the frame machine: the cursor always denotes the innermost open frame that pushed a node, so
  when the last frame returns the cursor is back at rest (C07, C03 bookkeeping), for every event sequence.
-/
namespace Artela
namespace Frame
open CallTree

/-- the node the cursor must point at: that of the innermost open frame that pushed one, else where it rested -/
def cursorOf : List OpenFrame → Option Nat → Option Nat
  | [], base => base
  | fr :: rest, base => if fr.treeNode then some fr.nodeIndex else cursorOf rest base

/-- every open frame that pushed a node still has it, and its parent is the frame below's node -/
def ChainOK (tree : CallTree) : List OpenFrame → Option Nat → Prop
  | [], _ => True
  | fr :: rest, base =>
    (fr.treeNode = true → ∃ n, tree.nodes[fr.nodeIndex]? = some n ∧ n.parent = cursorOf rest base) ∧ ChainOK tree rest base

def TreeInv (base : Option Nat) (st : FState) : Prop :=
  WF st.tracer.tree ∧ st.tracer.tree.current = cursorOf st.stack base ∧ ChainOK st.tracer.tree st.stack base

theorem chainOK_stable {t t' : CallTree} (hs : Stable t t') : ∀ (stack : List OpenFrame) (base : Option Nat),
    ChainOK t stack base → ChainOK t' stack base
  | [], _, _ => trivial
  | fr :: rest, base, ⟨h1, h2⟩ => by
    refine ⟨fun htn => ?_, chainOK_stable hs rest base h2⟩
    obtain ⟨n, hn, hp⟩ := h1 htn
    obtain ⟨n', hn', hm⟩ := hs _ n hn
    exact ⟨n', hn', (congrArg CallNode.parent hm).trans hp⟩

-- a bare `rfl` is forty times dearer here: it compares before it has unfolded
@[simp] theorem transferRecord_tree (t : Tracer) (a b : Addr) (w x y z : Nat) : (t.transferRecord a b w x y z).tree = t.tree := by
  unfold Tracer.transferRecord; rfl

@[simp] theorem saveCall_tree (t : Tracer) (f : Addr) (to : Option Addr) (d : Bytes) (v g : Nat) :
    (t.saveCall f to d v g).tree = t.tree.add f to d v g := rfl
@[simp] theorem exitCall_tree (t : Tracer) (l : Nat) (r : Option Bytes) (e : Option String) :
    (t.exitCall l r e).tree = t.tree.exit l r e := rfl

/-- an invocation that returns without running code: the cursor is back where it was -/
theorem add_exit_inv (base : Option Nat) (stack : List OpenFrame) (t : CallTree) (hwf : WF t) (hc : t.current = cursorOf stack base)
    (hch : ChainOK t stack base) (f : Addr) (to : Option Addr) (d : Bytes) (v g l : Nat) (r : Option Bytes) (e : Option String) :
    WF ((t.add f to d v g).exit l r e) ∧ ((t.add f to d v g).exit l r e).current = cursorOf stack base ∧
    ChainOK ((t.add f to d v g).exit l r e) stack base := by
  have hb : Balanced [Op.add f to d v g, Op.exit l r e] := Balanced.node f to d v g l r e [] Balanced.nil
  exact ⟨exit_wf (add_wf hwf f to d v g) l r e, (balanced_current hb hwf).trans hc,
    chainOK_stable ((add_stable t f to d v g).trans (exit_stable _ l r e)) stack base hch⟩

/-- a frame is pushed: its node is the cursor, its parent the previous cursor -/
theorem add_push_inv (base : Option Nat) (stack : List OpenFrame) (t : CallTree) (hwf : WF t) (hc : t.current = cursorOf stack base)
    (hch : ChainOK t stack base) (f : Addr) (to : Option Addr) (d : Bytes) (v g : Nat) (fr : OpenFrame)
    (htn : fr.treeNode = true) (hidx : fr.nodeIndex = t.count) :
    WF (t.add f to d v g) ∧ (t.add f to d v g).current = cursorOf (fr :: stack) base ∧ ChainOK (t.add f to d v g) (fr :: stack) base := by
  refine ⟨add_wf hwf f to d v g, ?_, ?_, chainOK_stable (add_stable t f to d v g) stack base hch⟩
  · simp [cursorOf, htn, hidx, add]
  · intro _
    refine ⟨mkNode f to d v g t.count t.current, ?_, ?_⟩
    · rw [hidx]; exact add_nodes_new hwf.count_eq f to d v g
    · simp [mkNode, hc]

theorem exit_pop_inv (base : Option Nat) (fr : OpenFrame) (rest : List OpenFrame) (t : CallTree) (hwf : WF t)
    (hc : t.current = cursorOf (fr :: rest) base) (hch : ChainOK t (fr :: rest) base) (htn : fr.treeNode = true)
    (l : Nat) (r : Option Bytes) (e : Option String) :
    WF (t.exit l r e) ∧ (t.exit l r e).current = cursorOf rest base ∧ ChainOK (t.exit l r e) rest base := by
  refine ⟨exit_wf hwf l r e, ?_, chainOK_stable (exit_stable t l r e) rest base hch.2⟩
  obtain ⟨n, hn, hp⟩ := hch.1 htn
  have hcur : t.current = some fr.nodeIndex := by rw [hc]; simp [cursorOf, htn]
  rw [exit_of_current hcur hn]
  exact hp

theorem treeInv_finish_false (base : Option Nat) (st : FState) (k : CallKind) (c t : Addr) (gs : Nat) (dbg top : Bool) (sg : Nat)
    (r : Option Bytes) (g : Nat) (e : Option String) (w en sn : List Effect) (ran : Bool)
    (h : TreeInv base st) : TreeInv base (finish st k c t gs false dbg top sg r g e w en sn ran) := h

/-- every open frame carries `treeNode` as its kind demands: the epilogues go by the kind -/
def KindsOK : List OpenFrame → Prop
  | [] => True
  | fr :: rest => fr.treeNode = fr.kind.pushesNode ∧ KindsOK rest

/-- the call-tree invariant with its side condition on the open frames; it does not include `Frame.Inv` (FrameInv.lean,
    the world invariant) -/
def FullInv (base : Option Nat) (st : FState) : Prop := TreeInv base st ∧ KindsOK st.stack

theorem ends_tree (hk : nd.isSome = k.pushesNode) (hi : FullInv base st) : FullInv base (ends st nd k c t v i g f p V) := by
  obtain ⟨⟨hwf, hc, hch⟩, hko⟩ := hi
  cases nd with
  | none =>
    cases V with
    | runs => exact ⟨⟨hwf, hc, nofun, hch⟩, hk, hko⟩
    | _ => exact ⟨⟨hwf, hc, hch⟩, hko⟩
  | some tgt =>
    cases V with
    | runs => exact ⟨add_push_inv base st.stack st.tracer.tree hwf hc hch c tgt i v g _ rfl rfl, hk, hko⟩
    | _ => exact ⟨add_exit_inv base st.stack st.tracer.tree hwf hc hch c tgt i v g .., hko⟩

theorem halts_tree (h : Halts st fr rest ret err gasLeft post st')
    (hs : st.stack = fr :: rest) (hi : FullInv base st) : FullInv base st' := by
  obtain ⟨⟨hwf, hc, hch⟩, hko⟩ := hi
  rw [hs] at hc hch hko
  have hx := exit_pop_inv base fr rest st.tracer.tree hwf hc hch
  cases h with
  | tail =>
    cases hn : fr.kind.pushesNode
    · -- CallCode / DelegateCall / StaticCall: no node, the cursor is already that of the frames below
      have hc' : st.tracer.tree.current = cursorOf rest base := by rw [hc, cursorOf, hko.1.trans hn]; rfl
      exact ⟨⟨hwf, hc', hch.2⟩, hko.2⟩
    · exact ⟨hx (hko.1.trans hn) .., hko.2⟩
  | create hk => exact ⟨hx (hko.1.trans (CallKind.pushesNode_of_isCreate hk)) .., hko.2⟩

theorem step_tree (base : Option Nat) (st : FState) (ev : FEvent) (h : FullInv base st) : FullInv base (step st ev) := by
  generalize step st ev = st', step_shape st ev = hS
  cases hS with
  | enters => exact ends_tree (CallKind.nodeFor_isSome ..) h
  | halts hs hH => exact halts_tree hH hs h
  | _ => exact h

theorem run_tree (base : Option Nat) (st : FState) (evs : List FEvent) (h : FullInv base st) : FullInv base (run st evs) :=
  foldl_inv (step_tree base) evs _ h

theorem fullInv_init : FullInv none {} := ⟨⟨wf_empty, rfl, trivial⟩, trivial⟩

end Frame
end Artela
