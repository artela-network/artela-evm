/-
  Pre-order flattening of a labelled tree with trace addresses — the shape of `flatFromNested` / `flatAspectNested`
  (tracers/native/call_flat.go) once the children of a frame are listed in the order pre-Aspects, calls, post-Aspects.
-/
namespace Artela

inductive Rose (α : Type) where
  | node : α → List (Rose α) → Rose α

structure FlatEntry (α : Type) where
  label : α
  addr : List Nat
  sub : Nat

namespace Rose
variable {α : Type}

mutual
def flat : Rose α → List Nat → List (FlatEntry α)
  | .node a cs, addr => ⟨a, addr, cs.length⟩ :: flatList cs addr 0
def flatList : List (Rose α) → List Nat → Nat → List (FlatEntry α)
  | [], _, _ => []
  | c :: cs, addr, i => flat c (addr ++ [i]) ++ flatList cs addr (i + 1)
end

mutual
def size : Rose α → Nat
  | .node _ cs => 1 + sizeList cs
def sizeList : List (Rose α) → Nat
  | [] => 0
  | c :: cs => size c + sizeList cs
end

mutual
theorem flat_length : ∀ (t : Rose α) (addr : List Nat), (flat t addr).length = size t
  | .node a cs, addr => by simp [flat, size, flatList_length cs addr 0]; omega
theorem flatList_length : ∀ (cs : List (Rose α)) (addr : List Nat) (i : Nat), (flatList cs addr i).length = sizeList cs
  | [], _, _ => by simp [flatList, sizeList]
  | c :: cs, addr, i => by simp [flatList, sizeList, flat_length c, flatList_length cs]
end

mutual
theorem flat_prefix : ∀ (t : Rose α) (addr : List Nat) (e : FlatEntry α), e ∈ flat t addr → addr <+: e.addr
  | .node a cs, addr, e, h => by
    simp only [flat, List.mem_cons] at h
    rcases h with h | h
    · subst h; exact List.prefix_refl _
    · obtain ⟨j, _, hj⟩ := flatList_prefix cs addr 0 e h
      exact List.IsPrefix.trans (List.prefix_append _ _) hj
theorem flatList_prefix : ∀ (cs : List (Rose α)) (addr : List Nat) (i : Nat) (e : FlatEntry α), e ∈ flatList cs addr i →
    ∃ j, i ≤ j ∧ (addr ++ [j]) <+: e.addr
  | [], _, _, _, h => by simp [flatList] at h
  | c :: cs, addr, i, e, h => by
    simp only [flatList, List.mem_append] at h
    rcases h with h | h
    · exact ⟨i, Nat.le_refl _, flat_prefix c (addr ++ [i]) e h⟩
    · obtain ⟨j, hj, hp⟩ := flatList_prefix cs addr (i + 1) e h
      exact ⟨j, by omega, hp⟩
end

theorem eq_of_nodup_map {β γ : Type} (f : β → γ) : ∀ (l : List β), (l.map f).Nodup → ∀ x ∈ l, ∀ y ∈ l, f x = f y → x = y
  | [], _, x, hx, _, _, _ => by simp at hx
  | a :: l, h, x, hx, y, hy, hxy => by
    simp only [List.map_cons, List.nodup_cons] at h
    simp only [List.mem_cons] at hx hy
    rcases hx with hx | hx <;> rcases hy with hy | hy
    · rw [hx, hy]
    · subst hx; exact absurd (List.mem_map.mpr ⟨y, hy, hxy.symm⟩) h.1
    · subst hy; exact absurd (List.mem_map.mpr ⟨x, hx, hxy⟩) h.1
    · exact eq_of_nodup_map f l h.2 x hx y hy hxy

theorem prefix_same_length {l1 l2 x : List Nat} (h1 : l1 <+: x) (h2 : l2 <+: x) (hl : l1.length = l2.length) : l1 = l2 :=
  (List.prefix_of_prefix_length_le h1 h2 (Nat.le_of_eq hl)).eq_of_length hl

/-- two children of `addr` that lie above the same address are the same child (the conclusion is `i = j`) -/
theorem snoc_prefix_ne {addr x : List Nat} {i j : Nat} (h1 : (addr ++ [i]) <+: x) (h2 : (addr ++ [j]) <+: x) : i = j := by
  have := prefix_same_length h1 h2 (by simp)
  have := List.append_cancel_left this
  simpa using this

mutual
theorem flat_nodup : ∀ (t : Rose α) (addr : List Nat), ((flat t addr).map (·.addr)).Nodup
  | .node a cs, addr => by
    simp only [flat, List.map_cons, List.nodup_cons]
    refine ⟨?_, flatList_nodup cs addr 0⟩
    intro hmem
    obtain ⟨e, he, hea⟩ := List.mem_map.mp hmem
    obtain ⟨j, _, hp⟩ := flatList_prefix cs addr 0 e he
    have := hp.length_le
    rw [hea] at this
    simp at this
    omega
theorem flatList_nodup : ∀ (cs : List (Rose α)) (addr : List Nat) (i : Nat), ((flatList cs addr i).map (·.addr)).Nodup
  | [], _, _ => by simp [flatList]
  | c :: cs, addr, i => by
    simp only [flatList, List.map_append]
    rw [List.nodup_append]
    refine ⟨flat_nodup c (addr ++ [i]), flatList_nodup cs addr (i + 1), ?_⟩
    intro x hx y hy hxy
    obtain ⟨e1, he1, h1⟩ := List.mem_map.mp hx
    obtain ⟨e2, he2, h2⟩ := List.mem_map.mp hy
    have p1 := flat_prefix c (addr ++ [i]) e1 he1
    obtain ⟨j, hj, p2⟩ := flatList_prefix cs addr (i + 1) e2 he2
    rw [h1] at p1; rw [h2, ← hxy] at p2
    have := snoc_prefix_ne p1 p2
    omega
end

/- every entry other than the root has its parent in the list: its address is the parent's address followed by an index
   below the parent's `sub` (prefix-closed, and no child index at or beyond `sub`) -/
mutual
theorem flat_parent : ∀ (t : Rose α) (addr : List Nat) (e : FlatEntry α), e ∈ flat t addr →
    e.addr = addr ∨ ∃ e' ∈ flat t addr, ∃ k, k < e'.sub ∧ e.addr = e'.addr ++ [k]
  | .node a cs, addr, e, h => by
    simp only [flat, List.mem_cons] at h
    rcases h with h | h
    · subst h; exact Or.inl rfl
    · right
      rcases flatList_parent cs addr 0 e h with ⟨k, _, hk, hek⟩ | ⟨e', he', k, hk, hek⟩
      · exact ⟨⟨a, addr, cs.length⟩, by simp [flat], k, by simpa using hk, hek⟩
      · exact ⟨e', by simp [flat, he'], k, hk, hek⟩
theorem flatList_parent : ∀ (cs : List (Rose α)) (addr : List Nat) (i : Nat) (e : FlatEntry α), e ∈ flatList cs addr i →
    (∃ k, i ≤ k ∧ k < i + cs.length ∧ e.addr = addr ++ [k]) ∨ ∃ e' ∈ flatList cs addr i, ∃ k, k < e'.sub ∧ e.addr = e'.addr ++ [k]
  | [], _, _, _, h => by simp [flatList] at h
  | c :: cs, addr, i, e, h => by
    simp only [flatList, List.mem_append] at h
    rcases h with h | h
    · rcases flat_parent c (addr ++ [i]) e h with h0 | ⟨e', he', k, hk, hek⟩
      · exact Or.inl ⟨i, Nat.le_refl _, by simp, h0⟩
      · exact Or.inr ⟨e', by simp [flatList, he'], k, hk, hek⟩
    · rcases flatList_parent cs addr (i + 1) e h with ⟨k, hk1, hk2, hek⟩ | ⟨e', he', k, hk, hek⟩
      · exact Or.inl ⟨k, by omega, by simp; omega, hek⟩
      · exact Or.inr ⟨e', by simp [flatList, he'], k, hk, hek⟩
end

theorem flat_head (t : Rose α) (addr : List Nat) : ∃ e ∈ flat t addr, e.addr = addr := by
  cases t with
  | node a cs => exact ⟨⟨a, addr, cs.length⟩, by simp [flat], rfl⟩

theorem flatList_heads : ∀ (cs : List (Rose α)) (addr : List Nat) (i k : Nat), i ≤ k → k < i + cs.length →
    ∃ e ∈ flatList cs addr i, e.addr = addr ++ [k]
  | [], _, _, _, h1, h2 => by simp at h2; omega
  | c :: cs, addr, i, k, h1, h2 => by
    by_cases hk : k = i
    · subst hk
      obtain ⟨e, he, hea⟩ := flat_head c (addr ++ [k])
      exact ⟨e, by simp [flatList, he], hea⟩
    · obtain ⟨e, he, hea⟩ := flatList_heads cs addr (i + 1) k (by omega) (by simp at h2; omega)
      exact ⟨e, by simp [flatList, he], hea⟩

/- every announced child is there: for each k below an entry's `sub` the list holds an entry at `addr ++ [k]` -/
mutual
theorem flat_children : ∀ (t : Rose α) (addr : List Nat) (e : FlatEntry α), e ∈ flat t addr → ∀ k, k < e.sub →
    ∃ e' ∈ flat t addr, e'.addr = e.addr ++ [k]
  | .node a cs, addr, e, h, k, hk => by
    simp only [flat, List.mem_cons] at h
    rcases h with h | h
    · subst h
      obtain ⟨e', he', hea⟩ := flatList_heads cs addr 0 k (Nat.zero_le _) (by simpa using hk)
      exact ⟨e', by simp [flat, he'], hea⟩
    · obtain ⟨e', he', hea⟩ := flatList_children cs addr 0 e h k hk
      exact ⟨e', by simp [flat, he'], hea⟩
theorem flatList_children : ∀ (cs : List (Rose α)) (addr : List Nat) (i : Nat) (e : FlatEntry α), e ∈ flatList cs addr i → ∀ k, k < e.sub →
    ∃ e' ∈ flatList cs addr i, e'.addr = e.addr ++ [k]
  | [], _, _, _, h, _, _ => by simp [flatList] at h
  | c :: cs, addr, i, e, h, k, hk => by
    simp only [flatList, List.mem_append] at h
    rcases h with h | h
    · obtain ⟨e', he', hea⟩ := flat_children c (addr ++ [i]) e h k hk
      exact ⟨e', by simp [flatList, he'], hea⟩
    · obtain ⟨e', he', hea⟩ := flatList_children cs addr (i + 1) e h k hk
      exact ⟨e', by simp [flatList, he'], hea⟩
end

/-- **the flat list is a faithful picture of the tree**: an entry at `p.addr ++ [k]` exists iff `k < p.sub` — so `sub` is
    exactly the number of emitted children (uniqueness: `flat_nodup`; prefix closure: `flat_parent`) -/
theorem flat_child_iff (t : Rose α) (addr : List Nat) (p : FlatEntry α) (hp : p ∈ flat t addr) (k : Nat) :
    (∃ e ∈ flat t addr, e.addr = p.addr ++ [k]) ↔ k < p.sub := by
  constructor
  · -- an entry at `p.addr ++ [k]` has a parent entry `q` with the same address as `p`; addresses are unique, so `q = p`
    rintro ⟨e, he, hea⟩
    rcases flat_parent t addr e he with h0 | ⟨q, hq, k', hk', hek⟩
    · have := (flat_prefix t addr p hp).length_le
      rw [hea] at h0
      have hl : (p.addr ++ [k]).length = addr.length := by rw [h0]
      simp at hl; omega
    · rw [hea] at hek
      have hlen : p.addr.length = q.addr.length := by
        have := congrArg List.length hek; simp at this; exact this
      obtain ⟨h1, h2⟩ := List.append_inj hek hlen
      have hk : k = k' := by simpa using h2
      have hpq : p = q := by
        have hnd := flat_nodup t addr
        exact eq_of_nodup_map (·.addr) _ hnd p hp q hq h1
      subst hpq hk
      exact hk'
  · exact flat_children t addr p hp k

end Rose
end Artela
