import Artela.Model.Frame
/-
  Each prologue of Model/Frame.lean is a decision (`callEnding`, `otherEnding`, `createEnding`: the model's `if`s with only
  the verdict at the leaves) followed by plumbing that decides nothing (`ends`).  `enterCall_eq` &c. are the only walks of
  the prologues: invariants are lemmas about `ends` by cases on the `Ending`, branch conditions are facts about the small
  decisions.  `haltFrame` likewise ends in one of two ways (`Halts`); `Step` / `step_shape` is the inversion of `step` the invariants go through.
-/
namespace Artela
open Frame

/-- `Call` and `create` do `SaveCall` and defer `ExitCall`; `CallCode`, `DelegateCall`, `StaticCall` do not -/
def CallKind.pushesNode : CallKind → Bool
  | .call | .create | .create2 => true
  | _ => false

/-- `SaveCall`'s target, if the kind's function pushes a node: the callee for `Call`, none for `create` -/
def CallKind.nodeFor (k : CallKind) (t : Addr) : Option (Option Addr) :=
  match k with
  | .call => some (some t)
  | .create | .create2 => some none
  | _ => none

theorem CallKind.nodeFor_isSome (k : CallKind) (t : Addr) : (k.nodeFor t).isSome = k.pushesNode := by cases k <;> rfl

theorem CallKind.nodeFor_create {k : CallKind} {t : Addr} (h : k.nodeFor t = some none) : k.isCreate = true := by
  cases k <;> first | rfl | cases h

theorem CallKind.pushesNode_of_isCreate {k : CallKind} (h : k.isCreate = true) : k.pushesNode = true := by
  cases k <;> first | rfl | cases h

theorem tailGas_le_self (g : Nat) (e : Option String) : Frame.tailGas g e ≤ g := by
  unfold Frame.tailGas
  cases e with
  | none => exact Nat.le_refl _
  | some x => dsimp only; split <;> omega

theorem createDeposit_gas_le (f : EnterFacts) (ret : Option Bytes) (err : Option String) (gasLeft : Nat) :
    (createDeposit f ret err gasLeft).2.1 ≤ gasLeft := by
  unfold createDeposit
  extract_lets retLen err1 err2
  split
  · split
    · exact Nat.sub_le _ _
    · exact Nat.le_refl _
  · exact Nat.le_refl _

namespace Frame

@[simp] theorem run_nil (st : FState) : run st [] = st := rfl
@[simp] theorem run_cons (st : FState) (ev : FEvent) (evs : List FEvent) : run st (ev :: evs) = run (step st ev) evs := rfl

/-- the Artela tracer after a prologue: `nd` as `CallKind.nodeFor`; `rec`: `TransferWithRecord` has run -/
def opened (tr : Tracer) (nd : Option (Option Addr)) (rec : Bool) (c t : Addr) (i : Bytes) (v g : Nat) (f : EnterFacts) : Tracer :=
  match nd with
  | none => tr
  | some tgt =>
    if rec then (tr.saveCall c tgt i v g).transferRecord c t f.balFrom f.balTo f.balFromAfter f.balToAfter
    else tr.saveCall c tgt i v g

/-- How a prologue ends: refused (`late`: by `create`'s collision check, which comes after the nonce bump), met a
    non-existing account, answered without the interpreter (`jp`: by a failing pre join point), or the interpreter
    starts with `ig` gas (`jp`: after the pre join point). -/
inductive Ending where
  | refused (e : String) (g' : Nat) (late : Bool)
  | absent
  | answered (jp : Bool) (r : Option Bytes) (g' : Nat) (e : Option String)
  | runs (jp : Bool) (ig : Nat)

/-- the pre join point was consulted -/
def Ending.jp : Ending → Bool
  | .answered jp .. | .runs jp _ => jp
  | _ => false

/-- what a precompile or the pre join point hands on, or the supplied gas where nobody intervened; not meant for `absent`
    (`ends` hands back all of `g` there).  Its only use is the bound `V.gas ≤ g` of `Step.enters`. -/
def Ending.gas : Ending → Nat
  | .refused _ g' _ | .answered _ _ g' _ => g'
  | .absent => 0
  | .runs _ ig => ig

/-- what a frame function does around its decisions: `top` and `value` go to the debug tracer, `before` (only `create`)
    and `after` are its world effects around the snapshot, `storage`: the account the frame's journal entries are filed under
    (the callee; the caller for `CallCode`/`DelegateCall`), `noCode`: `create` without init code -/
structure Plumbing where
  top : Bool
  value : Option Nat
  before : List Effect
  after : List Effect
  storage : Addr
  noCode : Bool

/-- the world at the snapshot: only `create` (a node without target) has done anything by then -/
def snapWorld (st : FState) (nd : Option (Option Addr)) (p : Plumbing) : List Effect :=
  if nd = some none then st.world ++ p.before else st.world

/-- the index `SaveCall` gives the pushed node: `count` before the add, which is `currentIndex` after it; 0 for the
    kinds that push none -/
def nodeIx (st : FState) (nd : Option (Option Addr)) : Nat := if nd.isSome then st.tracer.tree.count else 0

-- Trap: `absent` and `answered` take `st.world` / `st.world.length` as entry, snapshot and revert point, `runs` and a late
-- `refused` take `snapWorld`.  That is faithful only because `createEnding` never yields `absent` or `answered`.
def ends (st : FState) (nd : Option (Option Addr)) (k : CallKind) (c t : Addr) (v : Nat) (i : Bytes) (g : Nat) (f : EnterFacts)
    (p : Plumbing) : Ending → FState
  | .refused e g' late =>
    finish { st with tracer := opened st.tracer nd false c t i v g f } k c t g nd.isSome false p.top g none g' (some e)
      (if late then snapWorld st nd p else st.world) st.world (if late then snapWorld st nd p else st.world) false
  | .absent =>
    finish { st with tracer := opened st.tracer nd false c t i v g f
                     events := st.events ++ openDebug f.debug p.top k c t i g p.value ++ closeDebug f.debug p.top none 0 none }
      k c t g nd.isSome false p.top g none g none st.world st.world st.world false
  | .answered jp r g' e =>
    finish { st with tracer := opened st.tracer nd true c t i v g f, world := st.world ++ p.after
                     events := st.events ++ openDebug f.debug p.top k c t i g p.value
                     jps := if jp then st.jps ++ [.pre c t i v g (nodeIx st nd)] else st.jps }
      k c t g nd.isSome f.debug p.top g r (tailGas g' e) e (tailWorld (st.world ++ p.after) st.world.length e) st.world st.world false
  | .runs jp ig =>
    { st with tracer := opened st.tracer nd true c t i v g f, world := snapWorld st nd p ++ p.after
              events := st.events ++ openDebug f.debug p.top k c t i g p.value
              jps := if jp then st.jps ++ [.pre c t i v g (nodeIx st nd)] else st.jps
              stack := { kind := k, caller := c, to := t, value := v, input := i, gasSupplied := g, storageAddr := p.storage,
                         snapshot := (snapWorld st nd p).length, startGas := g, top := p.top, treeNode := nd.isSome,
                         nodeIndex := nodeIx st nd, jpFired := jp, interpGas := ig, facts := f,
                         worldAtEntry := st.world, worldAtSnapshot := snapWorld st nd p } :: st.stack
              started := st.started ++ if p.noCode then [] else [(t, ig)] }

def callEnding (d v g : Nat) (f : EnterFacts) : Ending :=
  if d > 1024 then .refused errDepth g false
  else if v ≠ 0 ∧ ¬ f.canTransfer then .refused errBalance g false
  else if ¬ f.exists_ ∧ f.precompile.isNone ∧ f.eip158 ∧ v = 0 then .absent
  else match f.precompile with
    | some (r, g', e) => .answered false r g' e
    | none =>
      if f.codeEmpty then .answered false none g none
      else if f.jpEnabled then
        match f.pre.err with
        | some e => .answered true f.pre.ret f.pre.gas (some (normaliseOOG e))
        | none => .runs true f.pre.gas
      else .runs false g

def otherEnding (k : CallKind) (d g : Nat) (f : EnterFacts) : Ending :=
  if d > 1024 then .refused errDepth g false
  else if k = .callcode ∧ ¬ f.canTransfer then .refused errBalance g false
  else match f.precompile with
    | some (r, g', e) => .answered false r g' e
    | none => if f.codeEmpty then .answered false none g none else .runs false g

def createEnding (d g : Nat) (f : EnterFacts) : Ending :=
  if d > 1024 then .refused errDepth g false
  else if ¬ f.canTransfer then .refused errBalance g false
  else if f.nonceOverflow then .refused errNonce g false
  else if f.collision then .refused errCollision 0 true
  else .runs false g

-- `by_cases` and `rw [if_pos _, if_pos _]` (one for each side), not `split`: that simplifies the whole goal at every
-- branch and is ten times dearer here.
theorem enterCall_eq (st : FState) (c t : Addr) (v : Nat) (i : Bytes) (g : Nat) (f : EnterFacts) :
    enterCall st c t v i g f =
      ends st (some (some t)) .call c t v i g f
        ⟨st.stack.isEmpty, some v, [], (if ¬ f.exists_ then [Effect.createAccount t] else []) ++ [Effect.transfer c t v], t, false⟩
        (callEnding st.stack.length v g f) := by
  unfold enterCall callEnding
  extract_lets top entry tr1 idx st1 snapshot world tr2 ev st2 fr st3
  by_cases h1 : st.stack.length > 1024
  · rw [if_pos h1, if_pos h1]; rfl
  rw [if_neg h1, if_neg h1]
  by_cases h2 : v ≠ 0 ∧ ¬ f.canTransfer
  · rw [if_pos h2, if_pos h2]; rfl
  rw [if_neg h2, if_neg h2]
  by_cases h3 : ¬ f.exists_ ∧ f.precompile.isNone ∧ f.eip158 ∧ v = 0
  · rw [if_pos h3, if_pos h3]; rfl
  rw [if_neg h3, if_neg h3]
  cases f.precompile with
  | some x => rfl
  | none =>
    dsimp -zeta only
    by_cases h4 : f.codeEmpty = true
    · rw [if_pos h4, if_pos h4]; rfl
    rw [if_neg h4, if_neg h4]
    by_cases h5 : f.jpEnabled = true
    · rw [if_pos h5, if_pos h5]
      cases f.pre.err <;> rfl
    · rw [if_neg h5, if_neg h5]; rfl

theorem enterOther_eq (st : FState) (k : CallKind) (c t : Addr) (v : Nat) (i : Bytes) (g : Nat) (f : EnterFacts) :
    enterOther st k c t v i g f =
      ends st none k c t v i g f
        ⟨false, (match k with | .staticcall => none | _ => some v), [], (if k = .staticcall then [Effect.touch t] else []),
         (match k with | .staticcall => t | _ => c), false⟩
        (otherEnding k st.stack.length g f) := by
  unfold enterOther otherEnding
  extract_lets top entry snapshot world dbgValue ev st2 sAddr
  by_cases h1 : st.stack.length > 1024
  · rw [if_pos h1, if_pos h1]; rfl
  rw [if_neg h1, if_neg h1]
  by_cases h2 : k = .callcode ∧ ¬ f.canTransfer
  · rw [if_pos h2, if_pos h2]; rfl
  rw [if_neg h2, if_neg h2]
  cases f.precompile with
  | some x => rfl
  | none =>
    dsimp -zeta only
    by_cases h4 : f.codeEmpty = true
    · rw [if_pos h4, if_pos h4]; rfl
    · rw [if_neg h4, if_neg h4]; rfl

theorem enterCreate_eq (st : FState) (k : CallKind) (c t : Addr) (v : Nat) (i : Bytes) (g : Nat) (f : EnterFacts) :
    enterCreate st k c t v i g f =
      ends st (some none) k c t v i g f
        ⟨st.stack.isEmpty, some v, [Effect.nonceBump c] ++ (if f.berlin then [Effect.accessList t] else []),
         [Effect.createAccount t] ++ (if f.eip158 then [Effect.setNonce1 t] else []) ++ [Effect.transfer c t v], t, i.isEmpty⟩
        (createEnding st.stack.length g f) := by
  unfold enterCreate createEnding
  extract_lets top entry tr1 idx st1 snapWorld snapshot world tr2 ev
  by_cases h1 : st.stack.length > 1024
  · rw [if_pos h1, if_pos h1]; rfl
  rw [if_neg h1, if_neg h1]
  by_cases h2 : ¬ f.canTransfer
  · rw [if_pos h2, if_pos h2]; rfl
  rw [if_neg h2, if_neg h2]
  by_cases h3 : f.nonceOverflow = true
  · rw [if_pos h3, if_pos h3]; rfl
  rw [if_neg h3, if_neg h3]
  by_cases h4 : f.collision = true
  · rw [if_pos h4, if_pos h4]; rfl
  · rw [if_neg h4, if_neg h4]; rfl

theorem otherEnding_jp (k : CallKind) (d g : Nat) (f : EnterFacts) : (otherEnding k d g f).jp = false := by
  unfold otherEnding
  split; · rfl
  split; · rfl
  split; · rfl
  split <;> rfl

theorem createEnding_jp (d g : Nat) (f : EnterFacts) : (createEnding d g f).jp = false := by
  unfold createEnding
  split; · rfl
  split; · rfl
  split; · rfl
  split <;> rfl

theorem callEnding_gas (d v : Nat) {g : Nat} {f : EnterFacts} (hpre : f.pre.gas ≤ g)
    (hpc : ∀ r g' e, f.precompile = some (r, g', e) → g' ≤ g) : (callEnding d v g f).gas ≤ g := by
  unfold callEnding
  by_cases h1 : d > 1024
  · rw [if_pos h1]; exact Nat.le_refl _
  rw [if_neg h1]
  by_cases h2 : v ≠ 0 ∧ ¬ f.canTransfer
  · rw [if_pos h2]; exact Nat.le_refl _
  rw [if_neg h2]
  by_cases h3 : ¬ f.exists_ ∧ f.precompile.isNone ∧ f.eip158 ∧ v = 0
  · rw [if_pos h3]; exact Nat.zero_le _
  rw [if_neg h3]
  cases hp : f.precompile with
  | some x => exact hpc _ _ _ hp
  | none =>
    cases f.codeEmpty with
    | true => exact Nat.le_refl _
    | false =>
      cases f.jpEnabled with
      | false => exact Nat.le_refl _
      | true => cases f.pre.err <;> exact hpre

theorem otherEnding_gas (k : CallKind) (d : Nat) {g : Nat} {f : EnterFacts}
    (hpc : ∀ r g' e, f.precompile = some (r, g', e) → g' ≤ g) : (otherEnding k d g f).gas ≤ g := by
  unfold otherEnding
  split; · exact Nat.le_refl _
  split; · exact Nat.le_refl _
  split
  · next hp => exact hpc _ _ _ hp
  · split <;> exact Nat.le_refl _

theorem createEnding_gas (d g : Nat) (f : EnterFacts) : (createEnding d g f).gas ≤ g := by
  unfold createEnding
  split; · exact Nat.le_refl _
  split; · exact Nat.le_refl _
  split; · exact Nat.le_refl _
  split
  · exact Nat.zero_le _
  · exact Nat.le_refl _

theorem postJoinPoint_gas (ret : Option Bytes) (err : Option String) (post : JPResult) :
    (postJoinPoint ret err post).2.2 = post.gas := by
  unfold postJoinPoint
  cases post.err with
  | none => rfl
  | some e => dsimp only; split <;> rfl

/-- the two epilogues: the common tail of the four call functions (`jp`: a post join point is owed), and `create`'s
    with its code deposit.  `tp`, `x`, `dep`, `revert`, `g`, `g'` are left free: no user needs more of them than `hrev`,
    `hg`, `hg'`. -/
inductive Halts (st : FState) (fr : OpenFrame) (rest : List OpenFrame) (ret : Option Bytes) (err : Option String) (gasLeft : Nat)
    (post : JPResult) : FState → Prop
  | tail {tp : Bool} {o : Option Bytes × Option String × Nat} (jp : Bool) (hk : fr.kind.isCreate = false)
      (hjp : jp = true ↔ fr.kind = .call ∧ fr.jpFired = true) (ho : o = if jp then postJoinPoint ret err post else (ret, err, gasLeft)) :
      Halts st fr rest ret err gasLeft post
        (finish { st with stack := rest
                          jps := if jp then st.jps ++ [.post fr.caller fr.to fr.input fr.value gasLeft fr.nodeIndex ret (err.getD "")]
                                 else st.jps }
          fr.kind fr.caller fr.to fr.gasSupplied fr.kind.pushesNode fr.facts.debug tp fr.startGas o.1 (tailGas o.2.2 o.2.1) o.2.1
          (tailWorld st.world fr.snapshot o.2.1) fr.worldAtEntry fr.worldAtSnapshot true)
  | create {e : Option String} {g g' : Nat} {dep : Bool} {x : Effect} {revert : Prop} [Decidable revert]
      (hk : fr.kind.isCreate = true) (hg : g' ≤ gasLeft) (hg' : g = 0 ∨ g = g') (hrev : e ≠ none → e ≠ some errCodeStoreOOG → revert) :
      Halts st fr rest ret err gasLeft post
        (finish { st with stack := rest, events := st.events ++ closeDebug fr.facts.debug fr.top ret (subU64 fr.startGas g) e }
          fr.kind fr.caller fr.to fr.gasSupplied true false fr.top fr.startGas ret g e
          (if revert then (if dep then st.world ++ [x] else st.world).take fr.snapshot else (if dep then st.world ++ [x] else st.world))
          fr.worldAtEntry fr.worldAtSnapshot true)

theorem haltFrame_halts (st : FState) (fr : OpenFrame) (rest : List OpenFrame) (ret : Option Bytes) (err : Option String)
    (gasLeft : Nat) (post : JPResult) : Halts st fr rest ret err gasLeft post (haltFrame st fr rest ret err gasLeft post) := by
  cases fr with | mk kind =>
  unfold haltFrame
  cases kind
  · dsimp -zeta only
    split
    · next h => exact .tail true rfl ⟨fun _ => ⟨rfl, h⟩, fun _ => rfl⟩ rfl
    · next h => exact .tail false rfl ⟨nofun, fun h' => absurd h'.2 h⟩ rfl
  iterate 3 exact .tail false rfl ⟨nofun, fun h => CallKind.noConfusion h.1⟩ rfl
  all_goals
    dsimp -zeta only
    extract_lets d world revert world' gas'
    -- `hrev`: here `revert` is `d.1.isSome ∧ (homestead ∨ d.1 ≠ some errCodeStoreOOG)`
    refine .create (revert := revert) (g' := d.2.1) rfl (createDeposit_gas_le ..) ?_ (fun h1 h2 => ⟨?_, .inr h2⟩)
    · by_cases h : revert ∧ d.1 ≠ some errReverted
      · exact .inl (if_pos h)
      · exact .inr (if_neg h)
    · cases hd : d.1 with
      | none => exact absurd hd h1
      | some _ => rfl

theorem haltFrame_stack (st : FState) (fr : OpenFrame) (rest : List OpenFrame) (ret : Option Bytes) (err : Option String)
    (gasLeft : Nat) (post : JPResult) : (haltFrame st fr rest ret err gasLeft post).stack = rest := by
  generalize haltFrame st fr rest ret err gasLeft post = st', haltFrame_halts st fr rest ret err gasLeft post = h
  cases h <;> rfl

theorem ends_jps :
    (ends st nd k c t v i g f p V).jps = if V.jp then st.jps ++ [.pre c t i v g (nodeIx st nd)] else st.jps := by
  cases V <;> rfl

theorem ends_new_frame :
    ∀ fr ∈ (ends st nd k c t v i g f p V).stack, fr ∈ st.stack ∨ (fr.storageAddr = p.storage ∧ fr.treeNode = nd.isSome) := by
  cases V with
  | runs =>
    intro fr hfr
    rcases List.mem_cons.1 hfr with rfl | hfr
    · exact .inr ⟨rfl, rfl⟩
    · exact .inl hfr
  | _ => exact fun _ => .inl

theorem ends_quiet (h : ∀ jp ig, V ≠ .runs jp ig) :
    (ends st nd k c t v i g f p V).stack = st.stack ∧ (ends st nd k c t v i g f p V).started = st.started := by
  cases V with
  | runs jp ig => exact absurd rfl (h jp ig)
  | _ => exact ⟨rfl, rfl⟩

@[simp] theorem finish_jps (st : FState) (k : CallKind) (c t : Addr) (gs : Nat) (tn dbg top : Bool) (sg : Nat)
    (r : Option Bytes) (g : Nat) (e : Option String) (w en sn : List Effect) (ran : Bool) :
    (finish st k c t gs tn dbg top sg r g e w en sn ran).jps = st.jps := rfl

@[simp] theorem finish_stack' (st : FState) (k : CallKind) (c t : Addr) (gs : Nat) (tn dbg top : Bool) (sg : Nat)
    (r : Option Bytes) (g : Nat) (e : Option String) (w en sn : List Effect) (ran : Bool) :
    (finish st k c t gs tn dbg top sg r g e w en sn ran).stack = st.stack := rfl

@[simp] theorem finish_started (st : FState) (k : CallKind) (c t : Addr) (gs : Nat) (tn dbg top : Bool) (sg : Nat)
    (r : Option Bytes) (g : Nat) (e : Option String) (w en sn : List Effect) (ran : Bool) :
    (finish st k c t gs tn dbg top sg r g e w en sn ran).started = st.started := rfl

@[simp] theorem finish_results (st : FState) (k : CallKind) (c t : Addr) (gs : Nat) (tn dbg top : Bool) (sg : Nat)
    (r : Option Bytes) (g : Nat) (e : Option String) (w en sn : List Effect) (ran : Bool) :
    (finish st k c t gs tn dbg top sg r g e w en sn ran).results =
      st.results ++ [{ kind := k, caller := c, to := t, ret := r, gas := g, err := e, gasSupplied := gs, worldAtEntry := en,
                       worldAtSnapshot := sn, worldAfter := w, ranCode := ran }] := rfl

@[simp] theorem finish_stack (st : FState) (k : CallKind) (c t : Addr) (gs : Nat) (tn dbg top : Bool) (sg : Nat)
    (r : Option Bytes) (g : Nat) (e : Option String) (w en sn : List Effect) (ran : Bool) :
    (finish st k c t gs tn dbg top sg r g e w en sn ran).stack = st.stack :=
  finish_stack' st k c t gs tn dbg top sg r g e w en sn ran

@[simp] theorem finish_world (st : FState) (k : CallKind) (c t : Addr) (gs : Nat) (tn dbg top : Bool) (sg : Nat)
    (r : Option Bytes) (g : Nat) (e : Option String) (w en sn : List Effect) (ran : Bool) :
    (finish st k c t gs tn dbg top sg r g e w en sn ran).world = w := rfl

theorem finish_tree (st : FState) (k : CallKind) (c t : Addr) (gs : Nat) (tn dbg top : Bool) (sg : Nat)
    (r : Option Bytes) (g : Nat) (e : Option String) (w en sn : List Effect) (ran : Bool) :
    (finish st k c t gs tn dbg top sg r g e w en sn ran).tracer.tree = if tn then st.tracer.tree.exit g r e else st.tracer.tree := by
  cases tn <;> rfl

/-- up to `exit`s a prologue does one `add` if its function pushes a node, an epilogue nothing: a measure of the tree
    that `exit` leaves alone (node count, number of roots) sees just that -/
theorem ends_tree_mod_exit {α : Type} (m : CallTree → α) (hexit : ∀ t l r e, m (CallTree.exit t l r e) = m t) :
    m (ends st nd k c t v i g f p V).tracer.tree = m (nd.elim st.tracer.tree fun tgt => st.tracer.tree.add c tgt i v g) := by
  cases nd with
  | none => cases V <;> rfl
  | some tgt =>
    cases V with
    | runs => rfl
    | _ => exact hexit (st.tracer.tree.add c tgt i v g) ..

theorem Halts.tree_mod_exit {α : Type} (m : CallTree → α) (hexit : ∀ t l r e, m (CallTree.exit t l r e) = m t)
    (h : Halts st fr rest ret err gasLeft post st') : m st'.tracer.tree = m st.tracer.tree := by
  cases h with
  | tail =>
    rw [finish_tree]
    split
    · exact hexit ..
    · rfl
  | create => exact hexit st.tracer.tree ..

/-- one step; `idle`: an event other than `enter` finds nothing to do when no frame is open.  In `enters` the plumbing `p`
    and the ending `V` are left free: every invariant holds of `ends … V` for every `V`; only C06 needs to know which
    `V`, and then only `hgas`. -/
inductive Step (st : FState) : FEvent → FState → Prop
  | idle (ev : FEvent) (hs : st.stack = []) (hev : ∀ k c t v i g f, ev ≠ .enter k c t v i g f) : Step st ev st
  | effect (id : Nat) : Step st (.effect id) { st with world := st.world ++ [.prog id] }
  | jkey (fr : OpenFrame) (rest : List OpenFrame) (hs : st.stack = fr :: rest) (p : Option Word) (s : Word) (o : Option Word)
      (ty pty : Word) (n : Bytes) :
      Step st (.jkey p s o ty pty n) { st with tracer := (st.tracer.saveStateKey fr.storageAddr p s o ty pty n).1 }
  | jchange (fr : OpenFrame) (rest : List OpenFrame) (hs : st.stack = fr :: rest) (s : Word) (o : Option Word) (ty : Word) (v : Bytes) :
      Step st (.jchange s o ty v) { st with tracer := (st.tracer.saveStateChange fr.storageAddr s o ty v).1 }
  | enters {k c t v i g f} (p : Plumbing) (V : Ending)
      (hgas : f.pre.gas ≤ g → (∀ r g' e, f.precompile = some (r, g', e) → g' ≤ g) → V.gas ≤ g) :
      Step st (.enter k c t v i g f) (ends st (k.nodeFor t) k c t v i g f p V)
  | halts {fr rest ret err gasLeft post st'} (hs : st.stack = fr :: rest) (h : Halts st fr rest ret err gasLeft post st') :
      Step st (.halt ret err gasLeft post) st'

theorem step_shape (st : FState) (ev : FEvent) : Step st ev (step st ev) := by
  cases ev with
  | enter k c t v i g f =>
    have other (k : CallKind) (hk : k.nodeFor t = none) : Step st (.enter k c t v i g f) (enterOther st k c t v i g f) := by
      rw [enterOther_eq, ← hk]
      exact .enters _ _ fun _ => otherEnding_gas _ _
    have create (k : CallKind) (hk : k.nodeFor t = some none) : Step st (.enter k c t v i g f) (enterCreate st k c t v i g f) := by
      rw [enterCreate_eq, ← hk]
      exact .enters _ _ fun _ _ => createEnding_gas ..
    cases k
    · show Step st _ (enterCall st c t v i g f)
      rw [enterCall_eq]
      exact .enters _ _ (callEnding_gas _ _)
    · exact other _ rfl
    · exact other _ rfl
    · exact other _ rfl
    · exact create _ rfl
    · exact create _ rfl
  | effect id =>
    dsimp only [step]; split
    · next hs => exact .idle _ hs (fun _ _ _ _ _ _ _ => FEvent.noConfusion)
    · exact .effect id
  | jkey p s o ty pty n =>
    dsimp only [step]; split
    · next hs => exact .idle _ hs (fun _ _ _ _ _ _ _ => FEvent.noConfusion)
    · next fr rest hs => exact .jkey fr rest hs ..
  | jchange s o ty v =>
    dsimp only [step]; split
    · next hs => exact .idle _ hs (fun _ _ _ _ _ _ _ => FEvent.noConfusion)
    · next fr rest hs => exact .jchange fr rest hs ..
  | halt ret err gasLeft post =>
    dsimp only [step]; split
    · next hs => exact .idle _ hs (fun _ _ _ _ _ _ _ => FEvent.noConfusion)
    · next fr rest hs => exact .halts hs (haltFrame_halts ..)

end Frame
end Artela
