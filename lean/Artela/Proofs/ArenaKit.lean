import Artela.Model.Base
/-
  Association lists (`alookup` over `++` and `aset`) and arenas (`List.modify`, `++ [x]` at `getElem?`): the shapes the
  tracers' operations are made of, with the looked-up key and the node field left as variables.
-/
namespace Artela

theorem alookup_append {κ ν} [DecidableEq κ] (k : κ) (l m : List (κ × ν)) :
    alookup k (l ++ m) = (alookup k l).or (alookup k m) := by
  induction l with
  | nil => rfl
  | cons hd tl ih =>
    simp only [List.cons_append, alookup]
    split
    · rfl
    · exact ih

theorem alookup_single {κ ν} [DecidableEq κ] (k n : κ) (v : ν) : alookup k [(n, v)] = if n = k then some v else none := rfl

theorem alookup_append_single_some {κ ν} [DecidableEq κ] {k n : κ} {v c : ν} {l : List (κ × ν)} :
    alookup k (l ++ [(n, v)]) = some c ↔ alookup k l = some c ∨ (alookup k l = none ∧ k = n ∧ c = v) := by
  rw [alookup_append, Option.or_eq_some_iff, alookup_single]
  by_cases h : n = k
  · simp [h, eq_comm]
  · simp [h, Ne.symm h]

theorem alookup_append_new {κ ν} [DecidableEq κ] (k : κ) (v : ν) :
    ∀ (l : List (κ × ν)), alookup k l = none → alookup k (l ++ [(k, v)]) = some v :=
  fun _ h => alookup_append_single_some.mpr (Or.inr ⟨h, rfl, rfl⟩)

theorem alookup_append_old {κ ν} [DecidableEq κ] (k k2 : κ) (v v2 : ν) :
    ∀ (l : List (κ × ν)), alookup k l = some v → alookup k (l ++ [(k2, v2)]) = some v :=
  fun _ h => alookup_append_single_some.mpr (Or.inl h)

theorem alookup_append_inv {κ ν} [DecidableEq κ] (k n : κ) (v c : ν) :
    ∀ (l : List (κ × ν)), alookup k (l ++ [(n, v)]) = some c → alookup k l = some c ∨ (alookup k l = none ∧ k = n ∧ c = v) :=
  fun _ => alookup_append_single_some.mp

theorem alookup_append_ne {κ ν} [DecidableEq κ] (k k2 : κ) (v2 : ν) (hne : k ≠ k2) :
    ∀ (l : List (κ × ν)), alookup k (l ++ [(k2, v2)]) = alookup k l := fun l => by
  rw [alookup_append, alookup_single, if_neg (Ne.symm hne)]; cases alookup k l <;> rfl

theorem alookup_aset {κ ν} [DecidableEq κ] (k j : κ) (v : ν) :
    ∀ (l : List (κ × ν)), alookup j (aset k v l) = if k = j then some v else alookup j l
  | [] => rfl
  | (k', v') :: rest => by
    simp only [aset]
    by_cases c : k' = k
    · subst c; simp only [if_true, alookup]; split <;> rfl
    · simp only [c, if_false, alookup, alookup_aset k j v rest]
      by_cases c2 : k' = j
      · simp [c2, show ¬ k = j from fun e => c (c2.trans e.symm)]
      · simp [c2]

theorem alookup_aset_same {κ ν} [DecidableEq κ] (k : κ) (v : ν) (l : List (κ × ν)) : alookup k (aset k v l) = some v := by
  rw [alookup_aset, if_pos rfl]

theorem alookup_aset_other {κ ν} [DecidableEq κ] (k j : κ) (v : ν) (h : j ≠ k) (l : List (κ × ν)) :
    alookup j (aset k v l) = alookup j l := by
  rw [alookup_aset, if_neg (Ne.symm h)]

theorem aset_self {κ ν} [DecidableEq κ] (k : κ) (v : ν) : ∀ (l : List (κ × ν)), alookup k l = some v → aset k v l = l
  | [], h => by cases h
  | (k', v') :: rest, h => by
    simp only [alookup, aset] at h ⊢
    split at h
    · next c => cases h; rw [if_pos c, c]
    · next c => rw [if_neg c, aset_self k v rest h]

theorem getElem_opt_concat_some {α} {l : List α} {x k : α} {m : Nat} :
    (l ++ [x])[m]? = some k ↔ l[m]? = some k ∨ (m = l.length ∧ k = x) := by
  rw [List.getElem?_append]
  split
  · next h => simp [Nat.ne_of_lt h]
  · next h =>
    rw [List.getElem?_eq_none (Nat.le_of_not_lt h), List.getElem?_singleton]
    by_cases e : m = l.length
    · simp [e, eq_comm]
    · have : m - l.length ≠ 0 := by omega
      simp [e, this]

theorem modify_get {α : Type} (l : List α) (p j : Nat) (g : α → α) (k : α) (h : l[j]? = some k) :
    (l.modify p g)[j]? = some (if p = j then g k else k) := by
  rw [List.getElem?_modify, h]; rfl

-- primed: Props/C19.lean states the same fact under the unprimed name
theorem getElem_opt_modify_some' {α} (l : List α) (k i : Nat) (g : α → α) (x : α) (h : (l.modify k g)[i]? = some x) :
    ∃ x0, l[i]? = some x0 ∧ x = if k = i then g x0 else x0 := by
  rw [List.getElem?_modify] at h
  cases hl : l[i]? with
  | none => rw [hl] at h; cases h
  | some x0 => rw [hl] at h; exact ⟨x0, rfl, (Option.some.inj h).symm⟩

theorem modify_keeps {α : Type} {P : α → Prop} {g : α → α} (hg : ∀ x, P x → P (g x)) {l : List α} {j : Nat} (i : Nat)
    (h : ∃ x, l[j]? = some x ∧ P x) : ∃ x, (l.modify i g)[j]? = some x ∧ P x :=
  let ⟨x, hx, hp⟩ := h
  ⟨if i = j then g x else x, modify_get l i j g x hx, by
    split
    · exact hg x hp
    · exact hp⟩

theorem append_keeps {α} {P : α → Prop} {l : List α} {j : Nat} (t : List α)
    (h : ∃ x, l[j]? = some x ∧ P x) : ∃ x, (l ++ t)[j]? = some x ∧ P x :=
  let ⟨x, hx, hp⟩ := h
  ⟨x, by rw [List.getElem?_append_left (List.getElem?_eq_some_iff.mp hx).1]; exact hx, hp⟩

theorem modify_self {α : Type} (l : List α) (i : Nat) (g : α → α) (h : ∀ x, l[i]? = some x → g x = x) : l.modify i g = l := by
  apply List.ext_getElem?
  intro j
  rw [List.getElem?_modify]
  cases hx : l[j]? with
  | none => rfl
  | some x =>
    by_cases hij : i = j
    · subst hij; simp [h x hx]
    · simp [hij]

end Artela
