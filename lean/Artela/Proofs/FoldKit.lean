/-
  Folds as state machines: what a run keeps, and what a run turns on.  `Acl.run`, `CallTree.run` and `Frame.run` are
  `List.foldl step`; `CallTracer.run` threads `Res` (its induction is `run_ok_of_step`) and `Interp.run` goes by fuel.
-/
namespace Artela

theorem foldl_inv {σ β : Type} {f : σ → β → σ} {I : σ → Prop} (h : ∀ s x, I s → I (f s x)) :
    ∀ (xs : List β) (s : σ), I s → I (xs.foldl f s)
  | [], _, hs => hs
  | x :: xs, s, hs => foldl_inv h xs _ (h s x hs)

/-- a fact `R` that a step can only turn on, and does exactly when `P` holds of the step, holds after the fold iff it held
    before or `P` holds of some step; `I` is an invariant of the steps that `h` may rely on -/
theorem foldl_or_iff_of_inv {σ β : Type} {f : σ → β → σ} {I R : σ → Prop} {P : β → Prop} (hI : ∀ s x, I s → I (f s x))
    (h : ∀ s x, I s → (R (f s x) ↔ R s ∨ P x)) : ∀ (xs : List β) (s : σ), I s → (R (xs.foldl f s) ↔ R s ∨ ∃ x ∈ xs, P x)
  | [], s, _ => by simp
  | x :: xs, s, hs => by simp [foldl_or_iff_of_inv hI h xs _ (hI s x hs), h s x hs, or_assoc]

theorem foldl_or_iff {σ β : Type} {f : σ → β → σ} {R : σ → Prop} {P : β → Prop} (h : ∀ s x, R (f s x) ↔ R s ∨ P x)
    (xs : List β) (s : σ) : R (xs.foldl f s) ↔ R s ∨ ∃ x ∈ xs, P x :=
  foldl_or_iff_of_inv (I := fun _ => True) (fun _ _ _ => trivial) (fun s x _ => h s x) xs s trivial

end Artela
