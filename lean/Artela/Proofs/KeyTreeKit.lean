import Artela.Model.StateChanges
import Artela.Proofs.ArenaKit
/-  `saveKey`, `saveChange`, `addChild` and `ensureRoot` of Model/StateChanges.lean by cases. -/
namespace Artela
namespace StateChanges

/-- what `saveKey` does once the offset is checked and the parent resolved to arena id `pid` of `s1` -/
def regTail (s1 : StateChanges) (a : Addr) (pid : Nat) (self : Word) (o : Nat) (ty : Word) (name : Bytes) :
    StateChanges × Option String :=
  let cid := s1.keys.length
  let child : KeyNode := { slot := some self, offset := o, data := name, typeId := ty, nodeType := .branch }
  let r := addChild (s1.keys ++ [child]) pid cid self o name
  let s2 : StateChanges := { s1 with keys := r.1 }
  match r.1[r.2]? with
  | none => (s2, none)
  | some rk => (s2.addKey a (rk.slot.getD 0) rk.offset rk.typeId r.2, none)

theorem saveKey_eq (s : StateChanges) (a : Addr) (parent : Option Word) (self : Word) (off : Option Word)
    (ty pty : Word) (name : Bytes) :
    s.saveKey a parent self off ty pty name =
      match checkOffset off with
      | none => (s, some "offset overflow")
      | some o =>
        match parent with
        | none => regTail (s.ensureRoot a).1 a (s.ensureRoot a).2 self o ty name
        | some p =>
          match s.findKey a p 0 pty with
          | none => (s, some "parent key not found")
          | some pid => regTail s a pid self o ty name := by
  unfold saveKey
  cases checkOffset off with
  | none => rfl
  | some o =>
    cases parent with
    | none => rfl
    | some p => simp only; cases s.findKey a p 0 pty <;> rfl

theorem checkOffset_le {o : Nat} (h : o ≤ 31) : checkOffset (some o) = some o :=
  if_neg (Nat.not_lt.mpr h)

theorem regTail_snd (s1 : StateChanges) (a : Addr) (pid : Nat) (self : Word) (o : Nat) (ty : Word) (name : Bytes) :
    (regTail s1 a pid self o ty name).2 = none := by
  unfold regTail; simp only; split <;> rfl

theorem saveChange_cases (s : StateChanges) (a : Addr) (self : Word) (off : Option Word) (ty : Word) (i : Nat) (v : Bytes) :
    (∃ e, s.saveChange a self off ty i v = (s, some e)) ∨
    ∃ o id, checkOffset off = some o ∧ s.findKey a self o ty = some id ∧
      s.saveChange a self off ty i v = ({ s with keys := s.keys.modify id (fun k => k.journal i v) }, none) := by
  unfold saveChange
  split
  · exact Or.inl ⟨_, rfl⟩
  · next o ho =>
    split
    · exact Or.inl ⟨_, rfl⟩
    · split
      · exact Or.inl ⟨_, rfl⟩
      · next id hid => exact Or.inr ⟨o, id, ho, hid, rfl⟩

/-- in all three branches of `addChild` the arena is the old one with the parent rewritten; `g` stays abstract, users need
    only what it keeps -/
theorem addChild_fst (keys : List KeyNode) (p cid : Nat) (slot : Word) (off : Nat) (name : Bytes) :
    ∃ g : KeyNode → KeyNode, (addChild keys p cid slot off name).1 = keys.modify p g ∧
      ∀ k, (g k).nodeType = k.nodeType ∧ (g k).changes = k.changes ∧
        ∀ so c, alookup so (g k).children = some c → alookup so k.children = some c ∨ c = cid := by
  unfold addChild
  cases keys[p]? with
  | none => exact ⟨id, (List.modify_id p keys).symm, fun k => ⟨rfl, rfl, fun _ _ h => Or.inl h⟩⟩
  | some pk =>
    simp only
    cases alookup (slot, off) pk.children with
    | some ex => exact ⟨_, rfl, fun k => ⟨rfl, rfl, fun _ _ h => Or.inl h⟩⟩
    | none =>
      refine ⟨_, rfl, fun k => ⟨rfl, rfl, fun so c h => ?_⟩⟩
      rcases alookup_append_single_some.mp h with h | ⟨_, _, h⟩
      · exact Or.inl h
      · exact Or.inr h

theorem addChild_snd (keys : List KeyNode) (p cid : Nat) (slot : Word) (off : Nat) (name : Bytes) :
    (addChild keys p cid slot off name).2 = cid ∨
      ∃ pk, keys[p]? = some pk ∧ alookup (slot, off) pk.children = some (addChild keys p cid slot off name).2 := by
  unfold addChild
  cases hp : keys[p]? with
  | none => exact Or.inl rfl
  | some pk =>
    simp only
    cases hso : alookup (slot, off) pk.children with
    | some ex => exact Or.inr ⟨pk, rfl, hso⟩
    | none => exact Or.inl rfl

end StateChanges
open StateChanges

def withRoot (s : StateChanges) (a : Addr) : StateChanges :=
  { s with keys := s.keys ++ [({ nodeType := .root } : KeyNode)], roots := s.roots ++ [(a, s.keys.length)] }

theorem ensureRoot_cases (s : StateChanges) (a : Addr) :
    (∃ r, alookup a s.roots = some r ∧ s.ensureRoot a = (s, r)) ∨
    (alookup a s.roots = none ∧ s.ensureRoot a = (withRoot s a, s.keys.length)) := by
  unfold ensureRoot withRoot
  cases h : alookup a s.roots with
  | some r => exact Or.inl ⟨r, rfl, rfl⟩
  | none => exact Or.inr ⟨rfl, rfl⟩

/-- the state after an unreachable node has been appended to the arena (what `NewBranchKey` leaves behind when the key exists) -/
def withJunk (s : StateChanges) (j : KeyNode) : StateChanges := { s with keys := s.keys ++ [j] }

end Artela
