import Artela.Model.Memory
import Artela.Proofs.GoKit
/-  `memCopyGo` (Go's `copy` on overlapping slices of one array) inside the memory; the word, fee and uint64 arithmetic of the
    memory gas functions. -/
namespace Artela

theorem length_extract {α} (s : List α) {lo n : Nat} (h : lo + n ≤ s.length) : (s.extract lo (lo + n)).length = n := by
  rw [List.extract_eq_take_drop, Nat.add_sub_cancel_left, List.length_take_of_le (by rw [List.length_drop]; omega)]

theorem memCopyGo_inside (s : Bytes) (dst src len : Nat) (hl : 0 < len)
    (hd : dst + len ≤ s.length) (hs : src + len ≤ s.length) (hU : s.length < U64) :
    memCopyGo s s.length dst src len = .ok (s.take dst ++ s.extract src (src + len) ++ s.drop (dst + len)) := by
  have hel := length_extract s hs
  unfold memCopyGo
  rw [if_neg (by omega), Nat.mod_eq_of_lt (by omega), goSlice_inside s (by omega) hs (Nat.le_refl _)]
  dsimp only
  rw [if_neg (by omega), hel, Nat.min_eq_right (by omega), List.take_of_length_le (l := s.extract src (src + len)) (by omega)]

theorem memmove_pointwise (s : Bytes) (dst src len : Nat) (hd : dst + len ≤ s.length) (hs : src + len ≤ s.length) (i : Nat) :
    (s.take dst ++ s.extract src (src + len) ++ s.drop (dst + len))[i]? =
      if dst ≤ i ∧ i < dst + len then s[src + (i - dst)]? else s[i]? := by
  have htl : (s.take dst).length = dst := List.length_take_of_le (by omega)
  have hel := length_extract s hs
  rw [List.append_assoc, List.getElem?_append, htl]
  by_cases h1 : i < dst
  · rw [if_pos h1, if_neg (by omega), List.getElem?_take_of_lt h1]
  · rw [if_neg h1, List.getElem?_append, hel]
    by_cases h2 : i - dst < len
    · rw [if_pos h2, if_pos (by omega), List.extract_eq_take_drop, List.getElem?_take_of_lt (by omega), List.getElem?_drop]
    · rw [if_neg h2, if_neg (by omega), List.getElem?_drop]
      congr 1; omega

theorem memmove_length (s : Bytes) (dst src len : Nat) (hd : dst + len ≤ s.length) (hs : src + len ≤ s.length) :
    (s.take dst ++ s.extract src (src + len) ++ s.drop (dst + len)).length = s.length := by
  rw [List.length_append, List.length_append, List.length_take_of_le (by omega), length_extract s hs, List.length_drop]
  omega

theorem maxU64_eq : maxU64 = 18446744073709551615 := by decide

theorem toWordSize_small (n : Nat) (h : n ≤ maxU64 - 31) : toWordSize n = (n + 31) / 32 := by
  unfold toWordSize; rw [if_neg (by omega)]

theorem Interp.toWordSize_words {w : Nat} (h : w * 32 < U64) : toWordSize (w * 32) = w := by
  have hU := U64_eq
  have hM := maxU64_eq
  rw [toWordSize_small _ (by omega)]; omega

theorem le_toWordSize {n : Nat} (h : n < U64) : n ≤ toWordSize n * 32 := by
  have hU := U64_eq
  have hM := maxU64_eq
  unfold toWordSize; split <;> omega

/-- the cap of `memoryGasCost` is a whole number of words -/
theorem words_cap {x : Nat} (h : x ≤ 0x1FFFFFFFE0) : x ≤ (x + 31) / 32 * 32 ∧ (x + 31) / 32 * 32 ≤ 0x1FFFFFFFE0 := by omega

theorem max_aligned {L W : Nat} (h : L % 32 = 0) : max L (W * 32) / 32 = max (L / 32) W ∧ max L (W * 32) % 32 = 0 := by
  rcases Nat.le_total L (W * 32) with c | c
  · rw [Nat.max_eq_right c, Nat.max_eq_right (by omega), Nat.mul_div_cancel _ (by decide), Nat.mul_mod_left]
    exact ⟨rfl, rfl⟩
  · rw [Nat.max_eq_left c, Nat.max_eq_left (by omega)]
    exact ⟨rfl, h⟩

/-- `toWordSize` clamps at 2^59 words, all a 64-bit length can need -/
theorem words_mod_le (n : Nat) : (n % U64 + 31) / 32 ≤ toWordSize n := by
  have hU := U64_eq
  have hM := maxU64_eq
  have hlt : n % U64 < U64 := Nat.mod_lt _ (by omega)
  have hle : n % U64 ≤ n := Nat.mod_le _ _
  unfold toWordSize; split <;> omega

theorem Interp.memFee_mono {a b : Nat} (h : a ≤ b) : memFee a + 3 * (b - a) ≤ memFee b := by
  unfold memFee
  have : a * a / 512 ≤ b * b / 512 := Nat.div_le_div_right (Nat.mul_le_mul h h)
  omega

theorem memFee_lt {w : Nat} (h : w ≤ 2 ^ 32) : memFee w < 2 ^ 63 := by
  unfold memFee
  have : w * w ≤ 2 ^ 32 * 2 ^ 32 := Nat.mul_le_mul h h
  omega

/-- Go's `a - b` on uint64 is the difference when it does not wrap -/
theorem subU64_eq {a b : Nat} (hb : b ≤ a) (ha : a < U64) : (a % U64 + U64 - b % U64) % U64 = a - b := by
  rw [Nat.mod_eq_of_lt ha, Nat.mod_eq_of_lt (Nat.lt_of_le_of_lt hb ha)]
  have : a + U64 - b = a - b + U64 := by omega
  rw [this, Nat.add_mod_right, Nat.mod_eq_of_lt (by omega)]

theorem memoryGasCost_cap {len last m g l : Nat} (h : memoryGasCost len last m = some (g, l)) : m ≤ 0x1FFFFFFFE0 := by
  unfold memoryGasCost at h
  split at h
  · omega
  · split at h
    · cases h
    · omega

/-- `lastGasCost` being the fee of the present size is what `Resize` and this function keep together; the uint64 subtraction is
    then exact -/
theorem memoryGasCost_synced (len : Nat) {w : Nat} (hcap : w * 32 ≤ 0x1FFFFFFFE0) :
    memoryGasCost len (memFee (len / 32)) (w * 32) =
      some (memFee (max (len / 32) w) - memFee (len / 32), memFee (max (len / 32) w)) := by
  have hU := U64_eq
  unfold memoryGasCost
  by_cases h0 : w * 32 = 0
  · rw [if_pos h0, Nat.max_eq_left (by omega), Nat.sub_self]
  · rw [if_neg h0, if_neg (by omega), Interp.toWordSize_words (by omega)]
    by_cases hg : w * 32 > len
    · have hfw := memFee_lt (w := w) (by omega)
      have hmono := Interp.memFee_mono (a := len / 32) (b := w) (by omega)
      rw [if_pos hg, Nat.max_eq_right (by omega), subU64_eq (by omega) (by omega)]
    · rw [if_neg hg, Nat.max_eq_left (by omega), Nat.sub_self]

theorem gasMcopy_some {len last m : Nat} {n : Word} {c l : Nat} (h : gasMcopy len last m n = some (c, l)) :
    ∃ g, memoryGasCost len last m = some (g, l) ∧ n < U64 ∧ c = g + toWordSize n * 3 := by
  unfold gasMcopy at h
  split at h
  · cases h
  · rename_i g l' hg
    split at h
    · cases h
    · dsimp only at h
      split at h
      · cases h
      · split at h
        · cases h
        · cases h
          exact ⟨g, hg, by omega, rfl⟩

end Artela
