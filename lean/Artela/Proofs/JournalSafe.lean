import Artela.Proofs.GoKit
import Artela.Spec.Solidity
/-  The journal instructions in closed form, Go's partial operations discharged by the guards in front of them;
    C03, C09 and C20 are read off these equations. -/
namespace Artela

theorem liftKey_not_panic (r : Tracer × Option String) : (liftKey r).isPanic = false := by
  unfold liftKey; split <;> rfl

/-- environment well-formedness: what Go guarantees about the memory slice and about `append` -/
structure JEnv.WF (env : JEnv) : Prop where
  cap     : env.mem.length ≤ env.memCap
  small   : env.mem.length ≤ maxAlloc          -- memory expansion gas caps memory far below 2^47
  appendC : ∀ n, n ≤ env.appendCap n

/-- each bound is checked against what is left of memory, so both `Memory.GetCopy` calls stay inside it -/
theorem loadDataFromMem_eq (ptr : Word) (mem : Bytes) (cap : Nat) (h2 : mem.length ≤ cap) (h3 : mem.length ≤ maxAlloc) :
    loadDataFromMem ptr mem cap =
      if mem.length < ptr + 32 then (.err "mem data out of range", {})
      else if mem.length < ptr + 32 + setBytes (mem.extract ptr (ptr + 32)) then
        (.err "mem data too long", { copied := 32, alloc := 32 })
      else (.ok (mem.extract (ptr + 32) (ptr + 32 + setBytes (mem.extract ptr (ptr + 32)))),
            { copied := 32 + setBytes (mem.extract ptr (ptr + 32)), alloc := 32 + setBytes (mem.extract ptr (ptr + 32)) }) := by
  have hM := maxAlloc_eq
  have hU := U64_eq
  unfold loadDataFromMem
  dsimp only
  by_cases c1 : mem.length < ptr + 32
  · rw [if_pos c1, if_pos]
    by_cases h : ptr < U64
    · rw [Nat.mod_eq_of_lt h]; omega
    · exact .inl (Nat.le_of_not_lt h)
  · obtain ⟨r1, e1, g1⟩ := memGetCopy_inside mem cap ptr 32 (Nat.le_of_not_lt c1) h2 h3
    -- restated with the literal `(32 : Int)` the model has; `e1` has `((32 : Nat) : Int)`, the same by unfolding only
    have e1 : memGetCopy mem cap (ptr : Int) 32 = _ := e1
    have hp : ptr + 32 < 2 ^ 63 := by omega
    rw [if_neg c1, toInt64_mod ptr (by omega), Nat.mod_eq_of_lt (by omega), if_neg (by omega), e1]
    dsimp only
    rw [g1, toInt64_mod _ hp]
    generalize setBytes (mem.extract ptr (ptr + 32)) = n
    by_cases c2 : mem.length < ptr + 32 + n
    · rw [if_pos c2, if_pos ((u64_guard (by omega)).2 (by omega))]
    · obtain ⟨r2, e2, g2⟩ := memGetCopy_inside mem cap (ptr + 32) n (Nat.le_of_not_lt c2) h2 h3
      rw [if_neg c2, if_neg (mt (u64_guard (by omega)).1 (by omega)), toInt64_mod n (by omega), e2]
      dsimp only [Work.add]
      rw [g2]

/-- what C03 and C20 need of an instruction's outcome: no panic, and its work within so many storage reads, bytes copied and
    bytes allocated -/
def Within (r : Res Tracer × Work) (reads copied alloc : Nat) : Prop :=
  r.1.isPanic = false ∧ r.2.reads ≤ reads ∧ r.2.copied ≤ copied ∧ r.2.alloc ≤ alloc

theorem keyFromMem_safe (ptr : Word) (env : JEnv) (hwf : env.WF) (f : Bytes → Tracer × Option String) :
    Within (keyFromMem ptr env f) 0 (32 + env.mem.length) (32 + env.mem.length) := by
  unfold keyFromMem
  rw [loadDataFromMem_eq ptr env.mem env.memCap hwf.cap hwf.small]
  generalize setBytes (env.mem.extract ptr (ptr + 32)) = n
  by_cases c1 : env.mem.length < ptr + 32
  · rw [if_pos c1]; exact ⟨rfl, Nat.le_refl 0, Nat.zero_le _, Nat.zero_le _⟩
  · rw [if_neg c1]
    by_cases c2 : env.mem.length < ptr + 32 + n
    · rw [if_pos c2]; exact ⟨rfl, Nat.le_refl 0, Nat.le_add_right _ _, Nat.le_add_right _ _⟩
    · rw [if_neg c2]
      have hn : 32 + n ≤ 32 + env.mem.length := by omega
      exact ⟨liftKey_not_panic _, Nat.le_refl 0, hn, hn⟩

/-- VVJNAL in the specification's terms: a valid packed field is journaled with the bytes Solidity's layout gives it, anything else is
    refused before storage is read -/
theorem vv_eq (slot off width typeId : Word) (env : JEnv) (tr : Tracer) :
    ∃ e, Journal.exec .vv [slot, off, width, typeId] env tr =
      if validPacked off width then
        (liftKey (tr.saveStateChange env.contract slot (some off) typeId (solPacked (env.storage slot) off width)), { reads := 1 })
      else (.err e, {}) := by
  have hU := U64_eq
  have hl : (bytes32 (env.storage slot)).length = 32 := beBytes_length _ _
  unfold Journal.exec
  dsimp only
  by_cases c1 : 31 < off
  · rw [if_pos ((u64_guard (by omega)).2 c1)]
    exact ⟨_, (if_neg fun hv => Nat.not_le.2 c1 hv.1).symm⟩
  · rw [if_neg (mt (u64_guard (by omega)).1 c1), Nat.mod_eq_of_lt (show off < U64 by omega)]
    by_cases c2 : 32 < off + width
    · rw [if_pos ((u64_guard (by omega)).2 (by omega))]
      exact ⟨_, (if_neg fun hv => Nat.not_le.2 c2 hv.2.2).symm⟩
    · rw [if_neg (mt (u64_guard (by omega)).1 (by omega)), Nat.mod_eq_of_lt (show width < U64 by omega),
        Nat.mod_eq_of_lt (show 32 - off - width < U64 by omega), Nat.mod_eq_of_lt (show 32 - off < U64 by omega),
        goSlice_inside _ (by omega) (by omega) (by omega), bytes32_eq, beBytes_extract 32 _ (by omega)]
      exact ⟨"", (if_pos ⟨by omega, by omega, by omega⟩).symm⟩  -- no error here: any string will do

theorem vv_safe (slot off width typeId : Word) (env : JEnv) (tr : Tracer) :
    Within (Journal.exec .vv [slot, off, width, typeId] env tr) 1 0 0 := by
  obtain ⟨e, h⟩ := vv_eq slot off width typeId env tr
  rw [h]
  split
  · exact ⟨liftKey_not_panic _, Nat.le_refl 1, Nat.le_refl 0, Nat.le_refl 0⟩
  · exact ⟨rfl, Nat.zero_le 1, Nat.le_refl 0, Nat.le_refl 0⟩

theorem readSlots_length (st : Word → Word) (k : Word) : ∀ n, (readSlots st k n).length = 32 * n
  | 0 => rfl
  | n + 1 => by rw [readSlots, List.length_append, readSlots_length st k n, bytes32, beBytes_length]; omega

theorem slotCount_bounds (len : Nat) (hl : len ≤ U64 - 32) : len ≤ 32 * slotCount len ∧ slotCount len ≤ len / 32 + 1 := by
  have hU := U64_eq
  unfold slotCount; rw [Nat.mod_eq_of_lt (by omega)]; omega

/-- in place (even, `len < 32` in the low byte) or out of place (odd, `len = w / 2`, from 32 up to the largest length whose
    slot count does not wrap) -/
theorem extractStorageLen_eq (w : Nat) :
    extractStorageLen w =
      if w % 2 = 0 then (if w % 256 / 2 < 32 then .ok (w % 256 / 2) else .error "storage encoding error")
      else if w / 2 < 32 then .error "storage encoding error"
      else if w / 2 > U64 - 32 then .error "storage too large to load" else .ok (w / 2) := by
  have hU := U64_eq
  unfold extractStorageLen
  dsimp only
  by_cases c : w % 2 = 0
  · rw [if_pos c, if_pos c, c, show w / 2 % 128 = w % 256 / 2 from (Nat.mod_mul_right_div_self w 2 128).symm]
    generalize w % 256 / 2 = n
    by_cases c2 : n < 32
    · rw [if_pos c2, if_pos c2, if_neg (by decide), if_neg (by omega)]
    · rw [if_neg c2, if_neg c2, if_pos rfl]
  · rw [if_neg c, if_neg c, (Nat.mod_two_eq_zero_or_one w).resolve_left c]
    generalize w / 2 = n
    by_cases c2 : n < 32
    · rw [if_pos c2, if_pos c2, if_pos rfl]
    · rw [if_neg c2, if_neg c2, if_neg (by decide)]
      by_cases c3 : n > U64 - 32
      · rw [if_pos c3, if_pos (Or.inr c3)]
      · rw [if_neg c3, if_neg (by omega)]

theorem extractStorageLen_ok {w n : Nat} (h : extractStorageLen w = .ok n) : n ≤ U64 - 32 ∧ (32 ≤ n → n = w / 2) := by
  have hU := U64_eq
  rw [extractStorageLen_eq] at h
  generalize w % 256 / 2 = a at h
  generalize w / 2 = b at h ⊢
  split at h
  · split at h
    · cases h; omega
    · cases h
  · split at h
    · cases h
    · split at h
      · cases h
      · cases h; omega

theorem vr_err (slot typeId : Word) (env : JEnv) (tr : Tracer) {e : String}
    (h : extractStorageLen (env.storage slot) = .error e) :
    Journal.exec .vr [slot, typeId] env tr = (.err e, { reads := 1 }) := by
  unfold Journal.exec
  dsimp only
  rw [h]

theorem vr_short (slot typeId : Word) (env : JEnv) (tr : Tracer) {len : Nat}
    (h : extractStorageLen (env.storage slot) = .ok len) (hl : len < 32) :
    Journal.exec .vr [slot, typeId] env tr =
      (liftKey (tr.saveStateChange env.contract slot none typeId
        ((bytes32 (env.storage slot - env.storage slot % 256)).take len)), { reads := 1 }) := by
  have hb : (bytes32 (env.storage slot - env.storage slot % 256)).length = 32 := beBytes_length _ _
  unfold Journal.exec
  dsimp only
  rw [h]
  dsimp only
  rw [if_pos hl, goSlice_take _ _ _ (by omega) (by omega)]

/-- the slots read hold at least `len` bytes because the decoder refuses the lengths whose slot count would wrap -/
theorem vr_long (slot typeId : Word) (env : JEnv) (tr : Tracer) (hcap : ∀ n, n ≤ env.appendCap n) {len : Nat}
    (h : extractStorageLen (env.storage slot) = .ok len) (hl : 32 ≤ len) :
    Journal.exec .vr [slot, typeId] env tr =
      (liftKey (tr.saveStateChange env.contract slot none typeId
        ((readSlots env.storage (env.keccak (bytes32 slot)) (slotCount len)).take len)),
       { reads := 1 + slotCount len, copied := 32 * slotCount len, alloc := 32 * slotCount len }) := by
  have hn := (slotCount_bounds len (extractStorageLen_ok h).1).1
  unfold Journal.exec
  dsimp only
  rw [h]
  dsimp only
  rw [if_neg (by omega), goSlice_take _ _ _ (by rw [readSlots_length]; exact hn) (hcap _)]

theorem vr_safe (slot typeId : Word) (env : JEnv) (tr : Tracer) (hwf : env.WF) :
    Within (Journal.exec .vr [slot, typeId] env tr) (1 + slotCount (env.storage slot / 2))
      (32 * slotCount (env.storage slot / 2)) (32 * slotCount (env.storage slot / 2)) := by
  cases hx : extractStorageLen (env.storage slot) with
  | error e =>
    rw [vr_err slot typeId env tr hx]
    exact ⟨rfl, Nat.le_add_right _ _, Nat.zero_le _, Nat.zero_le _⟩
  | ok len =>
    by_cases hl : len < 32
    · rw [vr_short slot typeId env tr hx hl]
      exact ⟨liftKey_not_panic _, Nat.le_add_right _ _, Nat.zero_le _, Nat.zero_le _⟩
    · rw [vr_long slot typeId env tr hwf.appendC hx (by omega), (extractStorageLen_ok hx).2 (by omega)]
      exact ⟨liftKey_not_panic _, Nat.le_refl _, Nat.le_refl _, Nat.le_refl _⟩

/-- the instructions by class: four load their key from memory, two take it from the stack, and the two change journals -/
theorem Journal.exec_cases (op : JOp) (args : List Word) (env : JEnv) (tr : Tracer) (ha : args.length = op.arity) :
    (∃ ptr f, Journal.exec op args env tr = keyFromMem ptr env f) ∨
    (∃ r, Journal.exec op args env tr = (liftKey r, {})) ∨
    (∃ slot off width typeId, op = .vv ∧ args = [slot, off, width, typeId]) ∨
    (∃ slot typeId, op = .vr ∧ args = [slot, typeId]) := by
  cases op with
  | rsv => match args, ha with | [ptr, _, _], _ => exact .inl ⟨ptr, _, rfl⟩
  | vsv => match args, ha with | [ptr, _, _, _], _ => exact .inl ⟨ptr, _, rfl⟩
  | irvv => match args, ha with | [_, _, ptr, _, _, _], _ => exact .inl ⟨ptr, _, rfl⟩
  | irvr => match args, ha with | [_, _, ptr, _, _], _ => exact .inl ⟨ptr, _, rfl⟩
  | ivvv => match args, ha with | [_, _, _, _, _, _], _ => exact .inr (.inl ⟨_, rfl⟩)
  | ivvr => match args, ha with | [_, _, _, _, _], _ => exact .inr (.inl ⟨_, rfl⟩)
  | vv => match args, ha with | [a, b, c, d], _ => exact .inr (.inr (.inl ⟨a, b, c, d, rfl, rfl⟩))
  | vr => match args, ha with | [a, b], _ => exact .inr (.inr (.inr ⟨a, b, rfl, rfl⟩))

/-- **No journal instruction panics**: for every opcode, every operand tuple of the right arity, every memory
    content and capacity, every storage function and every keccak. -/
theorem journal_no_panic (op : JOp) (args : List Word) (env : JEnv) (tr : Tracer)
    (ha : args.length = op.arity) (hwf : env.WF) :
    (Journal.exec op args env tr).1.isPanic = false := by
  obtain ⟨ptr, f, h⟩ | ⟨r, h⟩ | ⟨a, b, c, d, rfl, rfl⟩ | ⟨a, b, rfl, rfl⟩ := Journal.exec_cases op args env tr ha
  · rw [h]; exact (keyFromMem_safe ptr env hwf f).1
  · rw [h]; exact liftKey_not_panic r
  · exact (vv_safe a b c d env tr).1
  · exact (vr_safe a b env tr hwf).1

end Artela
