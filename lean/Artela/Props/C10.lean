import Artela.Proofs.FoldKit
import Artela.Props.C11
/-
  C10 — each journal entry is attributed to the right account and the call in progress (tracer part).

  Here: what `SaveStateChange` does with the account it is given and the call-tree cursor, and the list law of a
  change record.  Which account the opcodes pass (the executing contract's storage address) and that the cursor is
  the innermost CALL/CREATE frame belong to the frame layer (Props/C10Frame.lean; the cursor:
  `c07_cursor_is_innermost_node_frame`).
-/
namespace Artela
open StateChanges

/-- the index under which a change is filed is that of the innermost open call-tree node (0 when none is open) -/
theorem c10_index_is_cursor (t : Tracer) (a : Addr) (slot : Word) (off : Option Word) (ty : Word) (v : Bytes) :
    (t.saveStateChange a slot off ty v).1.states = (t.states.saveChange a slot off ty t.tree.currentIndex v).1 ∧
    (t.saveStateChange a slot off ty v).1.tree = t.tree := ⟨rfl, rfl⟩

/-- entering a call moves the cursor to the new node; leaving it moves the cursor back to the parent -/
theorem c10_cursor_follows_calls (t : CallTree) (f : Addr) (to : Option Addr) (d : Bytes) (v g : Nat) :
    (t.add f to d v g).currentIndex = t.count := rfl

theorem c10_cursor_after_exit (t : CallTree) (c : Nat) (n : CallNode) (l : Nat) (r : Option Bytes) (e : Option String)
    (hc : t.current = some c) (hn : t.nodes[c]? = some n) : (t.exit l r e).current = n.parent := by
  simp only [CallTree.exit, hc, hn]

/-- an accepted change modifies exactly one key node — the one the (account, slot, offset, type) lookup returns —
    by journaling `v` under the given call index; the flat index, the roots and every other node are untouched
    (entries of different accounts or keys never mix) -/
theorem c10_change_is_local (s s' : StateChanges) (a : Addr) (slot : Word) (off : Option Word) (ty : Word) (i : Nat) (v : Bytes)
    (h : s.saveChange a slot off ty i v = (s', none)) :
    ∃ o id, checkOffset off = some o ∧ s.findKey a slot o ty = some id ∧
      (∀ j, j ≠ id → s'.keys[j]? = s.keys[j]?) ∧ s'.keys[id]? = (s.keys[id]?).map (fun k => k.journal i v) := by
  obtain ⟨o, id, ho, hid, hk, _, _⟩ := c11_change_target s s' a slot off ty i v h
  refine ⟨o, id, ho, hid, ?_, ?_⟩
  · intro j hj
    rw [hk, List.getElem?_modify]
    have : ¬ (id = j) := fun e => hj e.symm
    simp [this]
  · rw [hk, List.getElem?_modify]; simp

/-- the list law of a record: journaling `v` under call `i` appends `v` to the list of call `i` unless it equals the
    last entry; the lists of all other calls are unchanged; nothing is ever removed -/
theorem c10_list_law (k : KeyNode) (i : Nat) (v : Bytes) (hne : ∀ m, k.changes = some m → m.NonEmpty) :
    ((k.journal i v).changes.getD []).at i = appendDedup ((k.changes.getD []).at i) v ∧
    (∀ j, j ≠ i → ((k.journal i v).changes.getD []).at j = (k.changes.getD []).at j) := by
  rw [journal_changes]
  exact ⟨ChangeMap.append_at _ i v, fun j hj => ChangeMap.append_other _ i j v hj⟩

/-- consequently, after journaling the values `vs` in order under call `i` into a fresh record, the record's list
    for `i` is the chronological sequence with immediate repeats collapsed -/
theorem c10_list_is_collapsed_history (i : Nat) (vs : List Bytes) :
    (vs.foldl (fun m v => ChangeMap.append m i v) []).at i = collapse vs ∧
    (vs.foldl (fun m v => ChangeMap.append m i v) []).NonEmpty := by
  constructor
  · -- `(·.at i)` carries `ChangeMap.append · i` to `appendDedup`
    exact (List.foldl_hom (·.at i) fun m v => (ChangeMap.append_at m i v).symm).symm
  · exact foldl_inv (fun m v => ChangeMap.append_nonEmpty m i v) vs [] (fun j l h => by cases h)

/-- non-vacuity / instance: repeated and alternating values -/
example : collapse [[1], [1], [2], [2], [1]] = [[1], [2], [1]] := by decide

end Artela
