import Artela.Proofs.FoldKit
import Artela.Props.C13Frame
import Artela.Proofs.KeyTreeKit
import Artela.Proofs.ChangeMapKit
/-
  C13 (nothing else) — no balance entry exists that does not correspond to a transfer observation.

  Journal instructions (`SaveStateKey`, `SaveStateChange`) work on the arena that also holds the balance records (an
  account's root key holds its balance changes), yet in EVERY reachable state — conflicting registrations included — they
  never alter the change record of a root: neither the flat index nor any `children` map ever names a root node
  (`RootsApart`).  The invariant speaks of single entries and nodes, so it is shown for the primitive updates (rewrite a
  node, append a node, append an index entry) of which every tracer operation is composed.  With C13Frame (the frame
  functions file exactly the brackets of the transfers they make) the balance journal holds transfer observations only.
-/
namespace Artela
open StateChanges

/-- the change record of an account's root: what `Balance()` returns (`none` = no root, or no balance change yet) -/
def balanceRecord (s : StateChanges) (a : Addr) : Option ChangeMap :=
  ((alookup a s.roots).bind (fun r => s.keys[r]?)).bind (fun (k : KeyNode) => k.changes)

/-- roots are root-typed arena nodes; nothing the journal instructions look up (flat index, `children`) is root-typed -/
structure RootsApart (s : StateChanges) : Prop where
  rootValid : ∀ (a : Addr) (r : Nat), alookup a s.roots = some r → ∃ k : KeyNode, s.keys[r]? = some k ∧ k.nodeType = .root
  idxNotRoot : ∀ key (id : Nat), alookup key s.index = some id → ∃ k : KeyNode, s.keys[id]? = some k ∧ k.nodeType ≠ .root
  childNotRoot : ∀ (p : Nat) (pk : KeyNode) (so : Word × Nat) (c : Nat), s.keys[p]? = some pk → alookup so pk.children = some c →
    ∃ k : KeyNode, s.keys[c]? = some k ∧ k.nodeType ≠ .root

theorem rootsApart_empty : RootsApart ({} : StateChanges) := by
  refine ⟨?_, ?_, ?_⟩ <;> intros <;> simp_all [alookup]

theorem RootsApart.modify {s : StateChanges} (hs : RootsApart s) (i : Nat) (g : KeyNode → KeyNode)
    (hg : ∀ k, (g k).nodeType = .root ↔ k.nodeType = .root)
    (hch : ∀ k so c, s.keys[i]? = some k → alookup so (g k).children = some c →
      alookup so k.children = some c ∨ ∃ ck : KeyNode, s.keys[c]? = some ck ∧ ck.nodeType ≠ .root) :
    RootsApart { s with keys := s.keys.modify i g } := by
  have nonroot : ∀ {j : Nat}, (∃ k : KeyNode, s.keys[j]? = some k ∧ k.nodeType ≠ .root) →
      ∃ k : KeyNode, (s.keys.modify i g)[j]? = some k ∧ k.nodeType ≠ .root :=
    modify_keeps (P := fun k => k.nodeType ≠ .root) (fun k h => mt (hg k).mp h) i
  refine ⟨?_, ?_, ?_⟩
  · intro b r hr
    exact modify_keeps (P := fun k => k.nodeType = .root) (fun k h => (hg k).mpr h) i (hs.rootValid b r hr)
  · intro key j hl
    exact nonroot (hs.idxNotRoot key j hl)
  · intro p pk' so c hp hl
    apply nonroot
    obtain ⟨pk, hpk, rfl⟩ := getElem_opt_modify_some' _ _ _ _ _ hp
    split at hl
    · next e =>
      subst e
      rcases hch pk so c hpk hl with h | h
      · exact hs.childNotRoot _ pk so c hpk h
      · exact h
    · exact hs.childNotRoot p pk so c hpk hl

theorem balanceRecord_congr {s s' : StateChanges} (hs : RootsApart s) (hroots : s'.roots = s.roots)
    (h : ∀ (r : Nat) (k : KeyNode), s.keys[r]? = some k → k.nodeType = .root →
      ∃ k' : KeyNode, s'.keys[r]? = some k' ∧ k'.changes = k.changes) (b : Addr) :
    balanceRecord s' b = balanceRecord s b := by
  unfold balanceRecord
  rw [hroots, Option.bind_assoc, Option.bind_assoc]
  refine Option.bind_congr fun r hr => ?_
  obtain ⟨k, hk, hkr⟩ := hs.rootValid b r hr
  obtain ⟨k', hk', hc⟩ := h r k hk hkr
  rw [hk', hk]
  exact hc

theorem balanceRecord_modify {s : StateChanges} (hs : RootsApart s) (i : Nat) (g : KeyNode → KeyNode)
    (hg : ∀ k, s.keys[i]? = some k → k.nodeType = .root → (g k).changes = k.changes) :
    ∀ b, balanceRecord { s with keys := s.keys.modify i g } b = balanceRecord s b :=
  balanceRecord_congr hs rfl fun r k hk hkr => ⟨_, modify_get _ i r g k hk, by
    split
    · next e => subst e; exact hg k hk hkr
    · rfl⟩

theorem RootsApart.concat {s : StateChanges} (hs : RootsApart s) (j : KeyNode) (hj : j.children = []) :
    RootsApart (withJunk s j) ∧ ∀ b, balanceRecord (withJunk s j) b = balanceRecord s b := by
  refine ⟨⟨?_, ?_, ?_⟩, ?_⟩
  · intro b r hr
    exact append_keeps _ (hs.rootValid b r hr)
  · intro key i hl
    exact append_keeps _ (hs.idxNotRoot key i hl)
  · intro p pk so c hp hl
    rcases getElem_opt_concat_some.mp hp with hp | ⟨_, rfl⟩
    · exact append_keeps _ (hs.childNotRoot p pk so c hp hl)
    · rw [hj] at hl; cases hl
  · exact balanceRecord_congr hs rfl fun r k hk _ => ⟨k, getElem_opt_concat_some.mpr (Or.inl hk), rfl⟩

theorem RootsApart.addKey {s : StateChanges} (hs : RootsApart s) (a : Addr) (sl : Word) (o : Nat) (ty : Word) (i : Nat)
    (hi : ∃ k : KeyNode, s.keys[i]? = some k ∧ k.nodeType ≠ .root) :
    RootsApart (s.addKey a sl o ty i) ∧ ∀ b, balanceRecord (s.addKey a sl o ty i) b = balanceRecord s b := by
  unfold StateChanges.addKey
  split
  · exact ⟨hs, fun _ => rfl⟩
  · refine ⟨⟨hs.rootValid, fun key j hl => ?_, hs.childNotRoot⟩, fun _ => rfl⟩
    rcases alookup_append_single_some.mp hl with h | ⟨_, _, rfl⟩
    · exact hs.idxNotRoot key j h
    · exact hi

theorem journal_nodeType (k : KeyNode) (i : Nat) (v : Bytes) : ((k.journal i v).nodeType = .root ↔ k.nodeType = .root) ∧
    (k.journal i v).children = k.children :=
  let ⟨_, _, _, _, hch, hnt, _⟩ := journal_keeps k i v
  ⟨hnt, hch⟩

theorem RootsApart.journal {s : StateChanges} (hs : RootsApart s) (id i : Nat) (v : Bytes) :
    RootsApart { s with keys := s.keys.modify id (fun k => k.journal i v) } :=
  hs.modify id _ (fun k => (journal_nodeType k i v).1) fun k _ _ _ h => by
    rw [(journal_nodeType k i v).2] at h
    exact Or.inl h

/-- **a change journal never touches a balance record**, and keeps the invariant -/
theorem saveChange_balance (s : StateChanges) (hs : RootsApart s) (a : Addr) (self : Word) (off : Option Word) (ty : Word) (i : Nat) (v : Bytes) :
    RootsApart (s.saveChange a self off ty i v).1 ∧ ∀ b, balanceRecord (s.saveChange a self off ty i v).1 b = balanceRecord s b := by
  rcases saveChange_cases s a self off ty i v with ⟨e, h⟩ | ⟨o, id, _, hid, h⟩
  · rw [h]; exact ⟨hs, fun _ => rfl⟩
  · rw [h]
    -- the node written is named by the flat index, so it is no root
    refine ⟨hs.journal id i v, balanceRecord_modify hs id _ fun k hk hkr => ?_⟩
    obtain ⟨k0, hk0, hnr⟩ := hs.idxNotRoot _ id hid
    cases hk.symm.trans hk0
    exact absurd hkr hnr

/-- what `AddChild` does to the arena and which key it returns -/
theorem addChild_spec (keys : List KeyNode) (p cid : Nat) (slot : Word) (off : Nat) (name : Bytes) :
    (∀ (j : Nat) (k' : KeyNode), (addChild keys p cid slot off name).1[j]? = some k' →
        ∃ k, keys[j]? = some k ∧ k'.nodeType = k.nodeType ∧ k'.changes = k.changes ∧
          ∀ so c, alookup so k'.children = some c → alookup so k.children = some c ∨ (c = cid ∧ j = p)) ∧
    (∀ (j : Nat) (k : KeyNode), keys[j]? = some k →
        ∃ k', (addChild keys p cid slot off name).1[j]? = some k' ∧ k'.nodeType = k.nodeType ∧ k'.changes = k.changes) ∧
    ((addChild keys p cid slot off name).2 = cid ∨
      ∃ pk, keys[p]? = some pk ∧ alookup (slot, off) pk.children = some (addChild keys p cid slot off name).2) := by
  obtain ⟨g, hg, hgk⟩ := addChild_fst keys p cid slot off name
  rw [hg]
  refine ⟨?_, ?_, addChild_snd keys p cid slot off name⟩
  · intro j k' h
    obtain ⟨k, hk, rfl⟩ := getElem_opt_modify_some' _ _ _ _ _ h
    refine ⟨k, hk, ?_⟩
    split
    · next e =>
      refine ⟨(hgk k).1, (hgk k).2.1, fun so c hc => ?_⟩
      rcases (hgk k).2.2 so c hc with h | h
      · exact Or.inl h
      · exact Or.inr ⟨h, e.symm⟩
    · exact ⟨rfl, rfl, fun _ _ hc => Or.inl hc⟩
  · intro j k h
    refine ⟨_, modify_get _ p j g k h, ?_⟩
    split
    · exact ⟨(hgk k).1, (hgk k).2.1⟩
    · exact ⟨rfl, rfl⟩

theorem balanceRecord_withRoot {s : StateChanges} (hs : RootsApart s) {a : Addr} (hn : alookup a s.roots = none) (b : Addr) :
    balanceRecord (withRoot s a) b = balanceRecord s b := by
  unfold balanceRecord withRoot
  by_cases hba : b = a
  · -- the new account had no record, and its fresh root has no changes
    subst hba
    simp only [alookup_append_new _ _ _ hn, hn, Option.bind_some, List.getElem?_concat_length]
    rfl
  · rw [alookup_append_ne b a _ hba, Option.bind_assoc, Option.bind_assoc]
    refine Option.bind_congr fun r hr => ?_
    obtain ⟨k, hk, _⟩ := hs.rootValid b r hr
    rw [getElem_opt_concat_some.mpr (Or.inl hk), hk]

theorem rootsApart_ensureRoot (s : StateChanges) (hs : RootsApart s) (a : Addr) :
    RootsApart (s.ensureRoot a).1 ∧ (∀ b, balanceRecord (s.ensureRoot a).1 b = balanceRecord s b) ∧
    (∃ k : KeyNode, (s.ensureRoot a).1.keys[(s.ensureRoot a).2]? = some k) := by
  rcases ensureRoot_cases s a with ⟨r, hr, he⟩ | ⟨hn, he⟩
  · rw [he]
    obtain ⟨k, hk, _⟩ := hs.rootValid a r hr
    exact ⟨hs, fun _ => rfl, k, hk⟩
  · rw [he]
    -- `withRoot` appends a root node, which keeps the invariant, and then the entry `a ↦` that node
    obtain ⟨⟨h1, h2, h3⟩, _⟩ := hs.concat { nodeType := .root } rfl
    have hnew : (withRoot s a).keys[s.keys.length]? = some ({ nodeType := .root } : KeyNode) := List.getElem?_concat_length
    refine ⟨⟨fun b r hr => ?_, h2, h3⟩, balanceRecord_withRoot hs hn, _, hnew⟩
    rcases alookup_append_single_some.mp hr with h | ⟨_, _, rfl⟩
    · exact h1 b r h
    · exact ⟨_, hnew, rfl⟩

theorem regTail_apart (s1 : StateChanges) (hs : RootsApart s1) (a : Addr) (pid : Nat) (self : Word) (o : Nat) (ty : Word) (name : Bytes) :
    RootsApart (regTail s1 a pid self o ty name).1 ∧
    ∀ b, balanceRecord (regTail s1 a pid self o ty name).1 b = balanceRecord s1 b := by
  unfold regTail
  extract_lets cid j r s2
  -- the arena of `s2` is `s1`'s with the fresh node `j` appended and then the parent rewritten by `AddChild`
  obtain ⟨hJ, hJbal⟩ := hs.concat j rfl
  have hcid : ∃ ck : KeyNode, (withJunk s1 j).keys[cid]? = some ck ∧ ck.nodeType ≠ .root :=
    ⟨j, List.getElem?_concat_length, nofun⟩
  obtain ⟨g, hg, hgk⟩ := addChild_fst (s1.keys ++ [j]) pid cid self o name
  have hnt : ∀ k, (g k).nodeType = .root ↔ k.nodeType = .root := fun k => by rw [(hgk k).1]
  have hS2 : RootsApart s2 ∧ ∀ b, balanceRecord s2 b = balanceRecord s1 b := by
    show RootsApart { s1 with keys := r.1 } ∧ ∀ b, balanceRecord { s1 with keys := r.1 } b = _
    rw [show r.1 = (s1.keys ++ [j]).modify pid g from hg]
    refine ⟨hJ.modify pid g hnt ?_, fun b => (balanceRecord_modify hJ pid g (fun k _ _ => (hgk k).2.1) b).trans (hJbal b)⟩
    intro k so c _ h
    rcases (hgk k).2.2 so c h with h | rfl
    · exact Or.inl h
    · exact Or.inr hcid
  split
  · exact hS2
  · -- the key `AddChild` returned is the fresh node or one the parent's `children` named before: no root either way
    have hrid : ∃ ck : KeyNode, s2.keys[r.2]? = some ck ∧ ck.nodeType ≠ .root := by
      show ∃ ck : KeyNode, r.1[r.2]? = some ck ∧ ck.nodeType ≠ .root
      rw [show r.1 = (s1.keys ++ [j]).modify pid g from hg]
      refine modify_keeps (P := fun k => k.nodeType ≠ .root) (fun k h => mt (hnt k).mp h) pid ?_
      rcases addChild_snd (s1.keys ++ [j]) pid cid self o name with h | ⟨pk, hpk, hex⟩
      · rw [show r.2 = cid from h]; exact hcid
      · exact hJ.childNotRoot pid pk (self, o) r.2 hpk hex
    obtain ⟨h1, h2⟩ := hS2.1.addKey a _ _ _ r.2 hrid
    exact ⟨h1, fun b => (h2 b).trans (hS2.2 b)⟩

-- the let-block is `regTail s1 a pid self o ty name` (Proofs/KeyTreeKit.lean) unfolded
theorem regTail_inv (s1 : StateChanges) (hs : RootsApart s1) (a : Addr) (pid : Nat) (self : Word) (o : Nat) (ty : Word) (name : Bytes) :
    RootsApart
      (let cid := s1.keys.length
       let child : KeyNode := { slot := some self, offset := o, data := name, typeId := ty, nodeType := .branch }
       let r := addChild (s1.keys ++ [child]) pid cid self o name
       let s2 : StateChanges := { s1 with keys := r.1 }
       match r.1[r.2]? with
       | none => (s2, (none : Option String))
       | some rk => (s2.addKey a (rk.slot.getD 0) rk.offset rk.typeId r.2, none)).1 ∧
    ∀ b, balanceRecord
      (let cid := s1.keys.length
       let child : KeyNode := { slot := some self, offset := o, data := name, typeId := ty, nodeType := .branch }
       let r := addChild (s1.keys ++ [child]) pid cid self o name
       let s2 : StateChanges := { s1 with keys := r.1 }
       match r.1[r.2]? with
       | none => (s2, (none : Option String))
       | some rk => (s2.addKey a (rk.slot.getD 0) rk.offset rk.typeId r.2, none)).1 b = balanceRecord s1 b :=
  regTail_apart s1 hs a pid self o ty name

/-- **a registration never touches a balance record** (accepted or refused, conflicting or not), and keeps the invariant -/
theorem saveKey_balance (s : StateChanges) (hs : RootsApart s) (a : Addr) (parent : Option Word) (self : Word) (off : Option Word)
    (ty pty : Word) (name : Bytes) :
    RootsApart (s.saveKey a parent self off ty pty name).1 ∧
    ∀ b, balanceRecord (s.saveKey a parent self off ty pty name).1 b = balanceRecord s b := by
  rw [saveKey_eq]
  cases checkOffset off with
  | none => exact ⟨hs, fun _ => rfl⟩
  | some o =>
    cases parent with
    | none =>
      obtain ⟨h1, h2, _⟩ := rootsApart_ensureRoot s hs a
      -- name what `ensureRoot` returned: otherwise the unifier unfolds it when it matches `regTail` against the goal
      generalize s.ensureRoot a = sr at h1 h2 ⊢
      obtain ⟨h3, h4⟩ := regTail_apart sr.1 h1 a sr.2 self o ty name
      exact ⟨h3, fun b => (h4 b).trans (h2 b)⟩
    | some p =>
      dsimp only
      cases s.findKey a p 0 pty with
      | none => exact ⟨hs, fun _ => rfl⟩
      | some pid => exact regTail_apart s hs a pid self o ty name

/-- the root stays a root; nothing else moves -/
theorem saveBalance_apart (s : StateChanges) (hs : RootsApart s) (a : Addr) (bal i : Nat) : RootsApart (s.saveBalance a bal i) :=
  (rootsApart_ensureRoot s hs a).1.journal _ i _

theorem transferRecord_apart (t : Tracer) (hs : RootsApart t.states) (frm to : Addr) (bf bt af at_ : Nat) :
    RootsApart (t.transferRecord frm to bf bt af at_).states := by
  unfold Tracer.transferRecord
  simp only
  exact saveBalance_apart _ (saveBalance_apart _ (saveBalance_apart _ (saveBalance_apart _ hs _ _ _) _ _ _) _ _ _) _ _ _

open Frame in
theorem apart_step (st : FState) (h : RootsApart st.tracer.states) (ev : FEvent) : RootsApart (Frame.step st ev).tracer.states := by
  -- a prologue's tracer is `opened`: a `saveCall`, which leaves `states` alone, and at most one `transferRecord`
  have hop : ∀ nd rec c t i v g f, RootsApart (opened st.tracer nd rec c t i v g f).states := by
    intro nd rec c t i v g f
    unfold opened
    cases nd with
    | none => exact h
    | some tgt =>
      cases rec with
      | false => exact h
      | true => exact transferRecord_apart (st.tracer.saveCall c tgt i v g) h c t _ _ _ _
  generalize Frame.step st ev = st', step_shape st ev = hS
  cases hS with
  | idle => exact h
  | effect => exact h
  | jkey fr rest hs p s o ty pty n => exact (saveKey_balance st.tracer.states h _ p s o ty pty n).1
  | jchange fr rest hs s o ty v => exact (saveChange_balance st.tracer.states h _ s o ty _ v).1
  | enters p V =>
    cases V with
    | runs => exact hop ..
    | _ => rw [ends, finish_states]; exact hop ..
  | halts hs hH => cases hH <;> rw [finish_states] <;> exact h

theorem apart_run (evs : List FEvent) : RootsApart (Frame.run {} evs).tracer.states :=
  foldl_inv (I := fun st => RootsApart st.tracer.states) (fun st ev h => apart_step st h ev) evs {} rootsApart_empty

/-- **C13, nothing else, every event sequence**: after any execution, a journal instruction of the running frame — a
    registration or a change, accepted or refused, conflicting with earlier ones or not — leaves every account's balance
    record exactly as it was -/
theorem c13_journal_never_touches_balances (evs : List FEvent) (b : Addr) :
    (∀ parent slot off ty pty name,
      balanceRecord (Frame.step (Frame.run {} evs) (.jkey parent slot off ty pty name)).tracer.states b =
        balanceRecord (Frame.run {} evs).tracer.states b) ∧
    (∀ slot off ty v,
      balanceRecord (Frame.step (Frame.run {} evs) (.jchange slot off ty v)).tracer.states b =
        balanceRecord (Frame.run {} evs).tracer.states b) := by
  have h := apart_run evs
  constructor
  · intro parent slot off ty pty name
    simp only [Frame.step]
    split
    · rfl
    · exact (saveKey_balance _ h _ parent slot off ty pty name).2 b
  · intro slot off ty v
    simp only [Frame.step]
    split
    · rfl
    · exact (saveChange_balance _ h _ slot off ty _ v).2 b

/-- … and neither does anything else but the two prologues that transfer (C13Frame): CallCode / DelegateCall / StaticCall
    prologues, every epilogue and every world effect leave the whole tracer state or its `states` part untouched -/
theorem c13_only_transfers_write_balances (st : FState) (b : Addr) :
    (∀ kind caller to value input gas f, balanceRecord (Frame.enterOther st kind caller to value input gas f).tracer.states b = balanceRecord st.tracer.states b) ∧
    (∀ fr rest ret err gasLeft post, balanceRecord (Frame.haltFrame st fr rest ret err gasLeft post).tracer.states b = balanceRecord st.tracer.states b) ∧
    (∀ id, balanceRecord (Frame.step st (.effect id)).tracer.states b = balanceRecord st.tracer.states b) := by
  refine ⟨fun kind caller to value input gas f => ?_, fun fr rest ret err gasLeft post => ?_, fun id => ?_⟩
  · rw [c13_other_kinds_silent]
  · rw [c13_halt_silent]
  · rw [c13_effect_silent]

/-- non-vacuity: a call with value, then a registration and a change in the callee, leave the two balance records as the
    transfer bracket wrote them -/
example :
    let evs : List FEvent := [ .enter .call 0xca 0xc0 5 [] 1000 { balFrom := 9, balTo := 1, balFromAfter := 4, balToAfter := 6 },
                               .jkey none 3 (some 0) 7 0 [0x61], .jchange 3 (some 0) 7 [0xee] ]
    balanceRecord (Frame.run {} evs).tracer.states 0xca = some [(0, [[9], [4]])] ∧
    balanceRecord (Frame.run {} evs).tracer.states 0xc0 = some [(0, [[1], [6]])] := by decide +kernel

end Artela
