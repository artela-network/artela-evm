import Artela.Model.AccessList
import Artela.Proofs.FoldKit
/-
  C18, access-list tracer: what the reference tracer lists, for every prior list, exclusion set and run.

  The list denotes a set of accounts (`HasAddr`) and a set of (account, key) pairs (`HasSlot`).  The two insertions are
  characterised exactly on both; the constructor and a run are folds of them (per prior tuple a `touch` and a fold of
  `addSlot`; per step `slotPart` and a fold of `touch` over the accounts the instruction names), so `foldl_or_iff` lifts the
  characterisation to the constructor (`acl_init_*`) and a run (`acl_run_*`), hence to `acl_spec_slots` / `acl_spec_addrs`.
  The one-directional statements are read off `acl_init_*` / `acl_run_*`; `acl_run_mono` and `acl_nodup` are invariants of the
  folds (`foldl_inv`).
-/
namespace Artela.Acl

/- `HasAddr` and `HasSlot` are bounded existentials over the list; the list only ever changes by `map` and by `++ [x]` -/
theorem exists_mem_map {α β : Type} {f : α → β} {l : List α} {p : β → Prop} : (∃ y ∈ l.map f, p y) ↔ ∃ x ∈ l, p (f x) := by
  constructor
  · rintro ⟨_, hy, h⟩
    obtain ⟨x, hx, rfl⟩ := List.mem_map.1 hy
    exact ⟨x, hx, h⟩
  · rintro ⟨x, hx, h⟩
    exact ⟨f x, List.mem_map_of_mem hx, h⟩

theorem exists_mem_snoc {α : Type} {l : List α} {x : α} {p : α → Prop} : (∃ y ∈ l ++ [x], p y) ↔ (∃ y ∈ l, p y) ∨ p x := by
  constructor
  · rintro ⟨y, hy, h⟩
    rcases List.mem_append.1 hy with hy | hy
    · exact .inl ⟨y, hy, h⟩
    · obtain rfl := List.mem_singleton.1 hy
      exact .inr h
  · rintro (⟨y, hy, h⟩ | h)
    · exact ⟨y, List.mem_append_left _ hy, h⟩
    · exact ⟨x, List.mem_append_right _ (List.mem_singleton.2 rfl), h⟩

def HasAddr (l : AList) (a : Addr) : Prop := ∃ e ∈ l, e.1 = a
def HasSlot (l : AList) (a : Addr) (s : Slot) : Prop := ∃ e ∈ l, e.1 = a ∧ s ∈ e.2

theorem hasAddr_iff (l : AList) (a : Addr) : hasAddr l a = true ↔ HasAddr l a := by
  simp only [hasAddr, HasAddr, List.any_eq_true, beq_iff_eq]

theorem hasSlot_iff (l : AList) (a : Addr) (s : Slot) : hasSlot l a s = true ↔ HasSlot l a s := by
  simp only [hasSlot, HasSlot, List.any_eq_true, Bool.and_eq_true, beq_iff_eq, List.contains_iff_mem]

theorem not_HasAddr_nil (a : Addr) : ¬ HasAddr [] a := fun ⟨_, h, _⟩ => nomatch h

theorem not_HasSlot_nil (a : Addr) (s : Slot) : ¬ HasSlot [] a s := fun ⟨_, h, _⟩ => nomatch h

theorem HasAddr_absorb {l : AList} {a : Addr} (ha : HasAddr l a) (b : Addr) : HasAddr l b ↔ HasAddr l b ∨ a = b := by
  constructor
  · exact Or.inl
  · rintro (h | rfl)
    · exact h
    · exact ha

theorem mem_insertSlot (ks : List Slot) (s t : Slot) : t ∈ insertSlot ks s ↔ t ∈ ks ∨ t = s := by
  unfold insertSlot; split
  · rename_i h
    have hs : s ∈ ks := List.contains_iff_mem.1 h
    constructor
    · exact Or.inl
    · rintro (h | rfl)
      · exact h
      · exact hs
  · simp

/-- no account twice: `List.Nodup` of the keys -/
def Nodup (l : AList) : Prop := (l.map (·.1)).Nodup

theorem HasAddr_keys (l : AList) (a : Addr) : HasAddr l a ↔ a ∈ l.map (·.1) := by
  constructor
  · rintro ⟨e, he, rfl⟩
    exact List.mem_map_of_mem he
  · exact List.exists_of_mem_map

theorem not_mem_of_not_hasAddr (l : AList) (a : Addr) (h : ¬ hasAddr l a = true) : a ∉ l.map (·.1) :=
  fun hm => h ((hasAddr_iff l a).2 ((HasAddr_keys l a).2 hm))

/-- what `addSlot` does to each entry of a list that has the account -/
def putSlot (a : Addr) (s : Slot) (e : Addr × List Slot) : Addr × List Slot := if e.1 == a then (e.1, insertSlot e.2 s) else e

theorem putSlot_fst (a : Addr) (s : Slot) (e : Addr × List Slot) : (putSlot a s e).1 = e.1 := by unfold putSlot; split <;> rfl

theorem mem_putSlot (a : Addr) (s : Slot) (e : Addr × List Slot) (t : Slot) :
    t ∈ (putSlot a s e).2 ↔ t ∈ e.2 ∨ (e.1 = a ∧ t = s) := by
  unfold putSlot; split <;> simp_all [mem_insertSlot]

theorem keys_map_putSlot (a : Addr) (s : Slot) (l : AList) : (l.map (putSlot a s)).map (·.1) = l.map (·.1) := by
  rw [List.map_map]; exact List.map_congr_left fun e _ => putSlot_fst a s e

theorem HasAddr_addAddress (l : AList) (a b : Addr) : HasAddr (addAddress l a) b ↔ HasAddr l b ∨ a = b := by
  unfold addAddress; split
  · rename_i h; exact HasAddr_absorb ((hasAddr_iff l a).1 h) b
  · exact exists_mem_snoc

theorem HasSlot_addAddress (l : AList) (a b : Addr) (s : Slot) : HasSlot (addAddress l a) b s ↔ HasSlot l b s := by
  unfold addAddress; split
  · rfl
  · -- the new entry `(a, [])` has no keys
    exact exists_mem_snoc.trans (or_iff_left fun h => List.not_mem_nil h.2)

theorem HasAddr_addSlot (l : AList) (a : Addr) (s : Slot) (b : Addr) : HasAddr (addSlot l a s) b ↔ HasAddr l b ∨ a = b := by
  unfold addSlot; split
  · rename_i h
    show HasAddr (l.map (putSlot a s)) b ↔ _
    rw [HasAddr_keys, keys_map_putSlot, ← HasAddr_keys]
    exact HasAddr_absorb ((hasAddr_iff l a).1 h) b
  · exact exists_mem_snoc

theorem HasSlot_addSlot (l : AList) (a : Addr) (s : Slot) (b : Addr) (t : Slot) :
    HasSlot (addSlot l a s) b t ↔ HasSlot l b t ∨ (a = b ∧ s = t) := by
  unfold addSlot; split
  · rename_i h
    obtain ⟨e0, he0, rfl⟩ := (hasAddr_iff l a).1 h
    show (∃ e' ∈ l.map (putSlot e0.1 s), _) ↔ _
    simp only [exists_mem_map, putSlot_fst, mem_putSlot]
    constructor
    · rintro ⟨e, he, rfl, h | ⟨h, rfl⟩⟩
      · exact .inl ⟨e, he, rfl, h⟩
      · exact .inr ⟨h.symm, rfl⟩
    · rintro (⟨e, he, rfl, h⟩ | ⟨rfl, rfl⟩)
      · exact ⟨e, he, rfl, .inl h⟩
      · exact ⟨e0, he0, rfl, .inr ⟨rfl, rfl⟩⟩
  · -- the new entry is `(a, [s])`
    refine exists_mem_snoc.trans (or_congr_right (and_congr_right fun _ => ?_))
    rw [List.mem_singleton, eq_comm]

theorem nodup_snoc (l : AList) (x : Addr × List Slot) (h : Nodup l) (hn : ¬ hasAddr l x.1 = true) : Nodup (l ++ [x]) := by
  unfold Nodup at *
  rw [List.map_append, List.nodup_append]
  refine ⟨h, by simp, fun a ha b hb hab => ?_⟩
  -- `b` is the key of the new entry, which `l` does not have
  rw [hab, List.mem_singleton.1 hb] at ha
  exact not_mem_of_not_hasAddr l _ hn ha

theorem nodup_addAddress (l : AList) (a : Addr) (h : Nodup l) : Nodup (addAddress l a) := by
  unfold addAddress; split
  · exact h
  · rename_i hn; exact nodup_snoc l (a, []) h hn

theorem nodup_addSlot (l : AList) (a : Addr) (s : Slot) (h : Nodup l) : Nodup (addSlot l a s) := by
  unfold addSlot; split
  · show (List.map _ (l.map (putSlot a s))).Nodup
    rw [keys_map_putSlot]; exact h
  · rename_i hn; exact nodup_snoc l (a, [s]) h hn

/-- list facts never disappear: the two predicates a step may only turn on -/
def Le (l m : AList) : Prop := (∀ a, HasAddr l a → HasAddr m a) ∧ (∀ a s, HasSlot l a s → HasSlot m a s)

theorem Le.refl (l : AList) : Le l l := ⟨fun _ h => h, fun _ _ h => h⟩
theorem Le.trans {l m n : AList} (h1 : Le l m) (h2 : Le m n) : Le l n :=
  ⟨fun a h => h2.1 a (h1.1 a h), fun a s h => h2.2 a s (h1.2 a s h)⟩

theorem le_addAddress (l : AList) (a : Addr) : Le l (addAddress l a) :=
  ⟨fun b h => (HasAddr_addAddress l a b).2 (.inl h), fun b s => (HasSlot_addAddress l a b s).2⟩

theorem le_addSlot (l : AList) (a : Addr) (s : Slot) : Le l (addSlot l a s) :=
  ⟨fun b h => (HasAddr_addSlot l a s b).2 (.inl h), fun b t h => (HasSlot_addSlot l a s b t).2 (.inl h)⟩

theorem touch_excl (st : St) (a : Addr) : (touch st a).excl = st.excl := by unfold touch; split <;> rfl

theorem HasSlot_touch (st : St) (a b : Addr) (s : Slot) : HasSlot (touch st a).list b s ↔ HasSlot st.list b s := by
  unfold touch; split
  · rfl
  · exact HasSlot_addAddress _ _ _ _

theorem HasAddr_touch (st : St) (a b : Addr) :
    HasAddr (touch st a).list b ↔ HasAddr st.list b ∨ (a = b ∧ st.excl.contains a = false) := by
  unfold touch; split
  · rename_i h; rw [h]; simp
  · rename_i h; rw [Bool.not_eq_true] at h; rw [h, HasAddr_addAddress]; simp

theorem le_touch (st : St) (a : Addr) : Le st.list (touch st a).list :=
  ⟨fun b h => (HasAddr_touch st a b).2 (.inl h), fun b s => (HasSlot_touch st a b s).2⟩

theorem nodup_touch (st : St) (a : Addr) (h : Nodup st.list) : Nodup (touch st a).list := by
  unfold touch; split
  · exact h
  · exact nodup_addAddress _ _ h

theorem foldSlots_slots (ks : List Slot) (l : AList) (a b : Addr) (s : Slot) :
    HasSlot (ks.foldl (fun acc k => addSlot acc a k) l) b s ↔ HasSlot l b s ∨ (a = b ∧ s ∈ ks) :=
  (foldl_or_iff (R := (HasSlot · b s)) (fun l k => HasSlot_addSlot l a k b s) ks l).trans (by simp [and_left_comm])

theorem foldSlots_addrs (ks : List Slot) (l : AList) (a b : Addr) :
    HasAddr (ks.foldl (fun acc k => addSlot acc a k) l) b ↔ HasAddr l b ∨ (a = b ∧ ks ≠ []) :=
  (foldl_or_iff (R := (HasAddr · b)) (fun l k => HasAddr_addSlot l a k b) ks l).trans (by cases ks <;> simp)

theorem foldSlots_has (ks : List Slot) (l : AList) (a : Addr) (k : Slot) (hk : k ∈ ks) :
    HasSlot (ks.foldl (fun acc s => addSlot acc a s) l) a k :=
  (foldSlots_slots ks l a a k).2 (.inr ⟨rfl, hk⟩)

theorem le_foldSlots (ks : List Slot) (l : AList) (a : Addr) : Le l (ks.foldl (fun acc s => addSlot acc a s) l) :=
  foldl_inv (I := Le l) (fun m k h => h.trans (le_addSlot m a k)) ks l (Le.refl l)

theorem initTuple_eq (excl : List Addr) (l : AList) (t : Addr × List Slot) :
    initTuple excl l t = t.2.foldl (fun acc s => addSlot acc t.1 s) (touch ⟨excl, l⟩ t.1).list := by
  unfold initTuple touch; split <;> rfl

theorem initTuple_slots (excl : List Addr) (l : AList) (t : Addr × List Slot) (a : Addr) (s : Slot) :
    HasSlot (initTuple excl l t) a s ↔ HasSlot l a s ∨ (t.1 = a ∧ s ∈ t.2) := by
  rw [initTuple_eq, foldSlots_slots, HasSlot_touch]

theorem initTuple_addrs (excl : List Addr) (l : AList) (t : Addr × List Slot) (a : Addr) :
    HasAddr (initTuple excl l t) a ↔ HasAddr l a ∨ (t.1 = a ∧ (excl.contains a = false ∨ t.2 ≠ [])) := by
  rw [initTuple_eq, foldSlots_addrs, HasAddr_touch, or_assoc, ← and_or_left]
  -- what is left is `excl.contains t.1` against `excl.contains a`, under `t.1 = a`
  exact or_congr_right (and_congr_right fun h => by rw [h])

theorem le_initTuple (excl : List Addr) (l : AList) (t : Addr × List Slot) : Le l (initTuple excl l t) :=
  ⟨fun a h => (initTuple_addrs excl l t a).2 (.inl h), fun a s h => (initTuple_slots excl l t a s).2 (.inl h)⟩

theorem le_foldTuples (excl : List Addr) (ts : AList) (l : AList) : Le l (ts.foldl (initTuple excl) l) :=
  foldl_inv (I := Le l) (fun m t h => h.trans (le_initTuple excl m t)) ts l (Le.refl l)

/-- the constructed list, slots: exactly the keys of the prior list -/
theorem acl_init_slots (excl : List Addr) (prior : AList) (a : Addr) (s : Slot) :
    HasSlot (init excl prior).list a s ↔ ∃ t ∈ prior, t.1 = a ∧ s ∈ t.2 :=
  (foldl_or_iff (R := (HasSlot · a s)) (fun l t => initTuple_slots excl l t a s) prior []).trans (or_iff_right (not_HasSlot_nil a s))

/-- the constructed list, accounts: those of the prior list that are not excluded or come with a key -/
theorem acl_init_addrs (excl : List Addr) (prior : AList) (a : Addr) :
    HasAddr (init excl prior).list a ↔ ∃ t ∈ prior, t.1 = a ∧ (excl.contains a = false ∨ t.2 ≠ []) :=
  (foldl_or_iff (R := (HasAddr · a)) (fun l t => initTuple_addrs excl l t a) prior []).trans (or_iff_right (not_HasAddr_nil a))

/-- every storage key of the prior list is kept, whether or not its account is excluded -/
theorem acl_prior_slots_kept (excl : List Addr) (prior : AList) (a : Addr) (ks : List Slot) (k : Slot)
    (ht : (a, ks) ∈ prior) (hk : k ∈ ks) : HasSlot (init excl prior).list a k :=
  (acl_init_slots excl prior a k).2 ⟨_, ht, rfl, hk⟩

/-- every account of the prior list that is not excluded is kept -/
theorem acl_prior_addr_kept (excl : List Addr) (prior : AList) (a : Addr) (ks : List Slot)
    (ht : (a, ks) ∈ prior) (hx : excl.contains a = false) : HasAddr (init excl prior).list a :=
  (acl_init_addrs excl prior a).2 ⟨_, ht, rfl, .inl hx⟩

/-- an excluded account listed bare (no keys) in the prior list is not in the constructed list -/
theorem acl_init_excluded_bare (excl : List Addr) (prior : AList) (b : Addr) (hb : excl.contains b = true)
    (hk : ∀ t ∈ prior, t.1 = b → t.2 = []) : ¬ HasAddr (init excl prior).list b := by
  rw [acl_init_addrs]
  rintro ⟨t, ht, h1, h2 | h2⟩
  · rw [hb] at h2; cases h2
  · exact h2 (hk t ht h1)

-- the hypotheses of `acl_prior_slots_kept`, `acl_init_excluded_bare` and `acl_prior_addr_kept` are met by a concrete construction:
-- `to` (= 2) excluded and listed with key 7, `from` (= 1) excluded and listed bare, a stranger (5) with key 1
example : hasSlot (init [1, 2, 9] [(2, [7]), (5, [1]), (1, [])]).list 2 7 = true ∧
    hasAddr (init [1, 2, 9] [(2, [7]), (5, [1]), (1, [])]).list 1 = false ∧
    hasAddr (init [1, 2, 9] [(2, [7]), (5, [1]), (1, [])]).list 5 = true := by decide

theorem nodup_init (excl : List Addr) (prior : AList) : Nodup (init excl prior).list :=
  foldl_inv (I := Nodup) (fun l t h => by
    rw [initTuple_eq]
    exact foldl_inv (I := Nodup) (fun m k => nodup_addSlot m t.1 k) _ _ (nodup_touch ⟨excl, l⟩ t.1 h)) prior [] List.nodup_nil

/-- the three parts of CaptureState, named so that each lemma is proved part by part -/
def slotPart (st : St) (op : Nat) (c : Addr) (stack : List Nat) : St :=
  if isSlotOp op then
    match stack with
    | top :: _ => { st with list := addSlot st.list c top }
    | [] => st
  else st

def addrPart (st : St) (op : Nat) (stack : List Nat) : St :=
  if isAddrOp op then
    match stack with
    | top :: _ => touch st (addrOf top)
    | [] => st
  else st

def callPart (st : St) (op : Nat) (stack : List Nat) : St :=
  if isCallOp op && decide (5 ≤ stack.length) then
    match stack with
    | _ :: second :: _ => touch st (addrOf second)
    | _ => st
  else st

theorem capture_parts (st : St) (op : Nat) (c : Addr) (stack : List Nat) :
    capture st op c stack = callPart (addrPart (slotPart st op c stack) op stack) op stack := rfl

/-- the slot a step touches -/
def Ev.slotTouch (e : Ev) : Option (Addr × Slot) :=
  if isSlotOp e.op then
    match e.stack with
    | top :: _ => some (e.contract, top)
    | [] => none
  else none

/-- the accounts a step names (before the exclusion filter) -/
def Ev.addrTouch (e : Ev) : List Addr :=
  (if isAddrOp e.op then
    match e.stack with
    | top :: _ => [addrOf top]
    | [] => []
  else []) ++
  (if isCallOp e.op && decide (5 ≤ e.stack.length) then
    match e.stack with
    | _ :: second :: _ => [addrOf second]
    | _ => []
  else [])

/-- the two halves of `Ev.addrTouch` -/
def addrArg (op : Nat) (stack : List Nat) : List Addr :=
  if isAddrOp op then
    match stack with
    | top :: _ => [addrOf top]
    | [] => []
  else []

def callArg (op : Nat) (stack : List Nat) : List Addr :=
  if isCallOp op && decide (5 ≤ stack.length) then
    match stack with
    | _ :: second :: _ => [addrOf second]
    | _ => []
  else []

theorem addrPart_eq (st : St) (op : Nat) (stack : List Nat) : addrPart st op stack = (addrArg op stack).foldl touch st := by
  unfold addrPart addrArg; split
  · split <;> rfl
  · rfl

theorem callPart_eq (st : St) (op : Nat) (stack : List Nat) : callPart st op stack = (callArg op stack).foldl touch st := by
  unfold callPart callArg; split
  · split <;> rfl
  · rfl

theorem capture_eq (st : St) (e : Ev) :
    capture st e.op e.contract e.stack = e.addrTouch.foldl touch (slotPart st e.op e.contract e.stack) := by
  rw [capture_parts, callPart_eq, addrPart_eq, ← List.foldl_append]; rfl

theorem foldTouch_excl (as : List Addr) (st : St) : (as.foldl touch st).excl = st.excl :=
  foldl_inv (I := (·.excl = st.excl)) (fun s a h => (touch_excl s a).trans h) as st rfl

theorem le_foldTouch (as : List Addr) (st : St) : Le st.list (as.foldl touch st).list :=
  foldl_inv (I := (Le st.list ·.list)) (fun s a h => h.trans (le_touch s a)) as st (Le.refl _)

theorem nodup_foldTouch (as : List Addr) (st : St) (h : Nodup st.list) : Nodup (as.foldl touch st).list :=
  foldl_inv (I := fun s : St => Nodup s.list) nodup_touch as st h

theorem HasSlot_foldTouch (as : List Addr) (st : St) (b : Addr) (s : Slot) :
    HasSlot (as.foldl touch st).list b s ↔ HasSlot st.list b s :=
  foldl_inv (I := fun s' => HasSlot s'.list b s ↔ HasSlot st.list b s) (fun s' a h => (HasSlot_touch s' a b s).trans h) as st .rfl

theorem HasAddr_foldTouch (as : List Addr) (st : St) (b : Addr) :
    HasAddr (as.foldl touch st).list b ↔ HasAddr st.list b ∨ (b ∈ as ∧ st.excl.contains b = false) :=
  (foldl_or_iff_of_inv (I := (·.excl = st.excl)) (R := (HasAddr ·.list b)) (fun s a h => (touch_excl s a).trans h)
    (fun s a h => by rw [HasAddr_touch, h]) as st rfl).trans (by simp [and_left_comm])

theorem addrPart_excl (st : St) (op : Nat) (stack : List Nat) : (addrPart st op stack).excl = st.excl := by
  rw [addrPart_eq]; exact foldTouch_excl _ _
theorem callPart_excl (st : St) (op : Nat) (stack : List Nat) : (callPart st op stack).excl = st.excl := by
  rw [callPart_eq]; exact foldTouch_excl _ _
theorem le_addrPart (st : St) (op : Nat) (stack : List Nat) : Le st.list (addrPart st op stack).list := by
  rw [addrPart_eq]; exact le_foldTouch _ _
theorem le_callPart (st : St) (op : Nat) (stack : List Nat) : Le st.list (callPart st op stack).list := by
  rw [callPart_eq]; exact le_foldTouch _ _

theorem slotPart_excl (st : St) (op : Nat) (c : Addr) (stack : List Nat) : (slotPart st op c stack).excl = st.excl := by
  unfold slotPart; split
  · split <;> rfl
  · rfl

theorem le_slotPart (st : St) (op : Nat) (c : Addr) (stack : List Nat) : Le st.list (slotPart st op c stack).list := by
  unfold slotPart; split
  · split
    · exact le_addSlot _ _ _
    · exact Le.refl _
  · exact Le.refl _

theorem HasSlot_slotPart (st : St) (e : Ev) (a : Addr) (s : Slot) :
    HasSlot (slotPart st e.op e.contract e.stack).list a s ↔ HasSlot st.list a s ∨ e.slotTouch = some (a, s) := by
  unfold slotPart Ev.slotTouch; split
  · split
    · simp [HasSlot_addSlot]
    · simp
  · simp

theorem HasAddr_slotPart (st : St) (e : Ev) (b : Addr) :
    HasAddr (slotPart st e.op e.contract e.stack).list b ↔ HasAddr st.list b ∨ ∃ s, e.slotTouch = some (b, s) := by
  unfold slotPart Ev.slotTouch; split
  · split
    · simp [HasAddr_addSlot]
    · simp
  · simp

theorem capture_excl (st : St) (op : Nat) (c : Addr) (stack : List Nat) : (capture st op c stack).excl = st.excl := by
  rw [capture_parts, callPart_excl, addrPart_excl, slotPart_excl]

theorem le_capture (st : St) (op : Nat) (c : Addr) (stack : List Nat) : Le st.list (capture st op c stack).list :=
  (le_slotPart st op c stack).trans ((le_addrPart _ op stack).trans (le_callPart _ op stack))

theorem capture_slots (st : St) (e : Ev) (a : Addr) (s : Slot) :
    HasSlot (capture st e.op e.contract e.stack).list a s ↔ HasSlot st.list a s ∨ e.slotTouch = some (a, s) := by
  rw [capture_eq, HasSlot_foldTouch, HasSlot_slotPart]

theorem capture_addrs (st : St) (e : Ev) (b : Addr) :
    HasAddr (capture st e.op e.contract e.stack).list b ↔
      HasAddr st.list b ∨ (∃ s, e.slotTouch = some (b, s)) ∨ (b ∈ e.addrTouch ∧ st.excl.contains b = false) := by
  rw [capture_eq, HasAddr_foldTouch, HasAddr_slotPart, slotPart_excl, or_assoc]

theorem run_excl (st : St) (evs : List Ev) : (run st evs).excl = st.excl :=
  foldl_inv (I := (·.excl = st.excl)) (fun s _ h => (capture_excl s _ _ _).trans h) evs st rfl

/-- a whole run, slots: exactly the initial ones and those touched -/
theorem acl_run_slots (st : St) (evs : List Ev) (a : Addr) (s : Slot) :
    HasSlot (run st evs).list a s ↔ HasSlot st.list a s ∨ ∃ e ∈ evs, e.slotTouch = some (a, s) :=
  foldl_or_iff (R := (HasSlot ·.list a s)) (fun st e => capture_slots st e a s) evs st

/-- a whole run, accounts: the initial ones, the owners of touched slots, and the named accounts that are not excluded -/
theorem acl_run_addrs (st : St) (evs : List Ev) (b : Addr) :
    HasAddr (run st evs).list b ↔
      HasAddr st.list b ∨ (∃ e ∈ evs, ∃ s, e.slotTouch = some (b, s)) ∨ ((∃ e ∈ evs, b ∈ e.addrTouch) ∧ st.excl.contains b = false) :=
  (foldl_or_iff_of_inv (I := (·.excl = st.excl)) (R := (HasAddr ·.list b)) (fun s _ h => (capture_excl s _ _ _).trans h)
    (fun s e h => by rw [capture_addrs, h]) evs st rfl).trans (by
      -- distribute ∃ over the three causes and pull `excl.contains b = false` out
      simp only [and_or_left, exists_or, ← and_assoc, exists_and_right])

/-- nothing is ever removed: whatever is listed stays listed through every step of every run -/
theorem acl_run_mono (st : St) (evs : List Ev) : Le st.list (run st evs).list :=
  foldl_inv (I := (Le st.list ·.list)) (fun s _ h => h.trans (le_capture s _ _ _)) evs st (Le.refl _)

/-- so the prior list's keys are in the final result of every run -/
theorem acl_prior_slots_final (excl : List Addr) (prior : AList) (evs : List Ev) (a : Addr) (ks : List Slot) (k : Slot)
    (ht : (a, ks) ∈ prior) (hk : k ∈ ks) : HasSlot (run (init excl prior) evs).list a k :=
  (acl_run_mono _ evs).2 a k (acl_prior_slots_kept excl prior a ks k ht hk)

/-- a storage access lists the slot under the executing contract, excluded or not -/
theorem acl_slot_access_listed (st : St) (op : Nat) (c : Addr) (top : Nat) (rest : List Nat) (h : isSlotOp op = true) :
    HasSlot (capture st op c (top :: rest)).list c top :=
  (capture_slots st ⟨op, c, top :: rest⟩ c top).2 (.inr (if_pos h))

theorem Ev.slotTouch_some {e : Ev} {a : Addr} {s : Slot} (h : e.slotTouch = some (a, s)) : isSlotOp e.op = true ∧ e.contract = a := by
  unfold Ev.slotTouch at h; split at h
  · rename_i hs; split at h
    · cases h; exact ⟨hs, rfl⟩
    · cases h
  · cases h

/-- an excluded account enters the list only with one of its slots: by address alone it never does -/
theorem touch_excluded (st : St) (a b : Addr) (hb : st.excl.contains b = true) (h : ¬ HasAddr st.list b) :
    ¬ HasAddr (touch st a).list b := by
  rw [HasAddr_touch]
  rintro (h1 | ⟨rfl, h1⟩)
  · exact h h1
  · rw [hb] at h1; cases h1

theorem capture_excluded (st : St) (op : Nat) (c : Addr) (stack : List Nat) (b : Addr)
    (hb : st.excl.contains b = true) (h : ¬ HasAddr st.list b) (hc : isSlotOp op = true → c ≠ b) :
    ¬ HasAddr (capture st op c stack).list b := by
  rw [capture_addrs st ⟨op, c, stack⟩]
  rintro (h1 | ⟨s, h1⟩ | ⟨_, h1⟩)
  · exact h h1
  · exact hc (Ev.slotTouch_some h1).1 (Ev.slotTouch_some h1).2
  · rw [hb] at h1; cases h1

/-- over a whole run in which the excluded account's own storage is not touched -/
theorem acl_excluded_only_by_slot (st : St) (evs : List Ev) (b : Addr)
    (hb : st.excl.contains b = true) (h : ¬ HasAddr st.list b)
    (hc : ∀ e ∈ evs, isSlotOp e.op = true → e.contract ≠ b) : ¬ HasAddr (run st evs).list b := by
  rw [acl_run_addrs]
  rintro (h1 | ⟨e, he, s, h1⟩ | ⟨_, h1⟩)
  · exact h h1
  · exact hc e he (Ev.slotTouch_some h1).1 (Ev.slotTouch_some h1).2
  · rw [hb] at h1; cases h1

theorem nodup_capture (st : St) (op : Nat) (c : Addr) (stack : List Nat) (h : Nodup st.list) :
    Nodup (capture st op c stack).list := by
  rw [capture_eq st ⟨op, c, stack⟩]
  refine nodup_foldTouch _ _ ?_
  unfold slotPart; split
  · split
    · exact nodup_addSlot _ _ _ h
    · exact h
  · exact h

/-- an account appears once in the result of every construction and run -/
theorem acl_nodup (excl : List Addr) (prior : AList) (evs : List Ev) : Nodup (run (init excl prior) evs).list :=
  foldl_inv (I := fun s : St => Nodup s.list) (fun s _ => nodup_capture s _ _ _) evs _ (nodup_init excl prior)

/-- C18, access-list tracer, as a specification: after construction from `prior` and any run, a slot is listed iff it is a
    key of the prior list or was touched by SLOAD/SSTORE in that contract -/
theorem acl_spec_slots (excl : List Addr) (prior : AList) (evs : List Ev) (a : Addr) (s : Slot) :
    HasSlot (run (init excl prior) evs).list a s ↔
      (∃ t ∈ prior, t.1 = a ∧ s ∈ t.2) ∨ ∃ e ∈ evs, e.slotTouch = some (a, s) := by
  rw [acl_run_slots, acl_init_slots]

/-- … and an account is listed iff it is in the prior list un-excluded or with a key, owns a touched slot, or is named by
    an account-access or call instruction and not excluded -/
theorem acl_spec_addrs (excl : List Addr) (prior : AList) (evs : List Ev) (b : Addr) :
    HasAddr (run (init excl prior) evs).list b ↔
      (∃ t ∈ prior, t.1 = b ∧ (excl.contains b = false ∨ t.2 ≠ [])) ∨
      (∃ e ∈ evs, ∃ s, e.slotTouch = some (b, s)) ∨
      ((∃ e ∈ evs, b ∈ e.addrTouch) ∧ excl.contains b = false) := by
  rw [acl_run_addrs, acl_init_addrs]
  rfl  -- `(init excl prior).excl` is `excl`

end Artela.Acl
