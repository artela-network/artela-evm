import Artela.Proofs.CallTreeBalanced
/-
  C07 — the call tree is a well-formed tree after every execution.

  The statements quantify over *every* finite history of `SaveCall`/`ExitCall` (balanced or not), hence over every
  execution of the frame layer, which performs nothing else on the call tree (`Props/C07Frame.lean` states them for the
  frame machine's own runs).
-/
namespace Artela
open CallTree

/-- C07, invariant: after any finite sequence of tracer operations from a fresh tracer the call tree is
    well formed: dense indices in order of entry, lookup by index returns the node with that index,
    every non-top-level node has one parent of smaller index listing it once in increasing order. -/
theorem c07_wf_any_history (ops : List Op) : WF (CallTree.empty.run ops) :=
  run_wf wf_empty ops

/-- C07, same statement from any well-formed starting point (repeated top-level invocations on one EVM). -/
theorem c07_wf_preserved (t : CallTree) (h : WF t) (ops : List Op) : WF (t.run ops) :=
  run_wf h ops

/-- C07: indices are dense `0..n-1`, assigned in order of entry. -/
theorem c07_dense_indices (ops : List Op) (i : Nat) (n : CallNode)
    (h : (CallTree.empty.run ops).findCall i = some n) : n.index = i ∧ i < (CallTree.empty.run ops).count := by
  have wf := c07_wf_any_history ops
  refine ⟨wf.index_eq i n h, ?_⟩
  rw [wf.count_eq]
  exact (List.getElem?_eq_some_iff.mp h).1

/-- C07: a node has at most one parent, that parent has a smaller index, and lists the node exactly once. -/
theorem c07_unique_parent (ops : List Op) (c p : Nat) (pn : CallNode)
    (hp : (CallTree.empty.run ops).findCall p = some pn) (hc : c ∈ pn.children) :
    (CallTree.empty.run ops).parentOf c = some p ∧ p < c ∧ pn.children.count c = 1 := by
  have wf := c07_wf_any_history ops
  obtain ⟨cn, hcn, hpar⟩ := wf.child_parent p pn c hp hc
  refine ⟨by simp [parentOf, hcn, hpar], wf.parent_lt c cn p hcn hpar, ?_⟩
  have hs := wf.children_sorted p pn hp
  have hnd : pn.children.Nodup := hs.imp (fun h => Nat.ne_of_lt h)
  rw [hnd.count, if_pos hc]

/-- C07: no call is left open — a balanced sequence (what one top-level frame emits) returns the cursor
    to its previous value; from rest (`none`) it is `none` again. -/
theorem c07_closed_after_balanced (t : CallTree) (h : WF t) (ops : List Op) (hb : Balanced ops) :
    (t.run ops).current = t.current :=
  balanced_current hb h

theorem c07_closed_from_rest (ops : List Op) (hb : Balanced ops) :
    (CallTree.empty.run ops).current = none :=
  balanced_current hb wf_empty

/-- C07, repeated top-level invocations on one EVM: after two balanced runs the tree is well formed,
    closed, and the second top-level node has no parent. -/
theorem c07_second_toplevel (a : List Op) (ha : Balanced a) (f : Addr) (to : Option Addr) (d : Bytes) (v g : Nat) :
    let t := CallTree.empty.run a
    ((t.add f to d v g).findCall t.count).map (·.parent) = some none := by
  intro t
  have hcur : t.current = none := c07_closed_from_rest a ha
  have wf : WF t := c07_wf_any_history a
  simp only [findCall]
  rw [add_nodes_new wf.count_eq]
  simp [mkNode, hcur]

/-- non-vacuity: a concrete unbalanced history with nesting satisfies the hypotheses and the invariant is
    about a non-trivial tree (3 nodes, one left open). -/
example :
    let t := CallTree.empty.run [Op.add 1 (some 2) [] 0 10, Op.add 2 none [1] 5 7, Op.exit 3 none (some "x"),
                                 Op.add 2 (some 3) [] 0 1]
    t.nodes.length = 3 ∧ t.current = some 2 ∧ t.parentOf 2 = some 0 ∧ t.childrenOf 0 = some [1, 2] := by
  decide

example : Balanced [Op.add 1 (some 2) [] 0 10, Op.add 2 none [] 0 1, Op.exit 0 none none, Op.exit 0 none none] :=
  Balanced.node 1 (some 2) [] 0 10 0 none none [Op.add 2 none [] 0 1, Op.exit 0 none none]
    (Balanced.node 2 none [] 0 1 0 none none [] Balanced.nil)

end Artela
