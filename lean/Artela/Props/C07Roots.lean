import Artela.Proofs.FrameTree
/-
  C07 (roots) — a node has no parent exactly when it was pushed while no CALL/CREATE frame was in progress, i.e. it is a
  top-level invocation by the host; every other node is listed under the frame that issued it.

  Counting form, for every event sequence: the number of parentless nodes of the recorded tree equals the number of
  `Call`/`create` invocations made while no CALL/CREATE frame was open.
-/
namespace Artela
open Frame CallTree

def roots (t : CallTree) : Nat := (t.nodes.filter (fun n => n.parent.isNone)).length

theorem filter_modify_length {α} (p : α → Bool) (g : α → α) (h : ∀ x, p (g x) = p x) :
    ∀ (l : List α) (i : Nat), ((l.modify i g).filter p).length = (l.filter p).length := by
  intro l
  induction l with
  | nil => intro i; simp
  | cons x xs ih =>
    intro i
    cases i with
    | zero =>
      simp only [List.modify_zero_cons, List.filter_cons, h]
      split <;> simp
    | succ k =>
      simp only [List.modify_succ_cons, List.filter_cons]
      split <;> simp [ih k]

theorem roots_add (t : CallTree) (f : Addr) (to : Option Addr) (d : Bytes) (v g : Nat) :
    roots (t.add f to d v g) = roots t + (if t.current.isNone then 1 else 0) := by
  unfold roots CallTree.add
  simp only [List.filter_append, List.length_append]
  cases hc : t.current with
  | none => simp [mkNode]
  | some p =>
    simp only [mkNode, Option.isNone_some, Bool.false_eq_true, if_false, List.filter_cons, List.filter_nil, List.length_nil, Nat.add_zero]
    exact filter_modify_length (fun n => n.parent.isNone) (pushChild t.count) (fun x => rfl) t.nodes p

theorem roots_exit (t : CallTree) (l : Nat) (r : Option Bytes) (e : Option String) : roots (t.exit l r e) = roots t := by
  rcases exit_cases t l r e with h | ⟨c, n, _, _, h⟩
  · rw [h]
  · rw [h]
    exact filter_modify_length (fun n => n.parent.isNone) (setResult l r e) (fun x => rfl) t.nodes c

/-- invocations of `Call` / `create` made while no CALL/CREATE frame is in progress -/
def topLevelEnters : FState → List FEvent → Nat
  | _, [] => 0
  | st, ev :: rest =>
    (match ev with
     | .enter k _ _ _ _ _ _ => if (k = .call ∨ k.isCreate) ∧ cursorOf st.stack none = none then 1 else 0
     | _ => 0) + topLevelEnters (Frame.step st ev) rest

@[simp] theorem finish_roots (st : FState) (k : CallKind) (c t : Addr) (gs : Nat) (tn dbg top : Bool) (sg : Nat)
    (r : Option Bytes) (g : Nat) (e : Option String) (w en sn : List Effect) (ran : Bool) :
    roots (finish st k c t gs tn dbg top sg r g e w en sn ran).tracer.tree = roots st.tracer.tree := by
  rw [finish_tree]
  split
  · exact roots_exit ..
  · rfl

theorem ends_roots :
    roots (ends st nd k c t v i g f p V).tracer.tree =
      roots st.tracer.tree + if nd.isSome ∧ st.tracer.tree.current.isNone then 1 else 0 := by
  rw [ends_tree_mod_exit roots roots_exit]
  cases nd
  · rfl
  · simp only [Option.elim, roots_add, Option.isSome_some, true_and]

theorem enterCall_roots (st : FState) (caller to : Addr) (value : Nat) (input : Bytes) (gas : Nat) (f : EnterFacts) :
    roots (enterCall st caller to value input gas f).tracer.tree = roots st.tracer.tree + (if st.tracer.tree.current.isNone then 1 else 0) :=
  by rw [enterCall_eq, ends_roots]; simp only [Option.isSome_some, true_and]

theorem enterCreate_roots (st : FState) (kind : CallKind) (caller to : Addr) (value : Nat) (input : Bytes) (gas : Nat) (f : EnterFacts) :
    roots (enterCreate st kind caller to value input gas f).tracer.tree = roots st.tracer.tree + (if st.tracer.tree.current.isNone then 1 else 0) :=
  by rw [enterCreate_eq, ends_roots]; simp only [Option.isSome_some, true_and]

theorem enterOther_roots (st : FState) (kind : CallKind) (caller to : Addr) (value : Nat) (input : Bytes) (gas : Nat) (f : EnterFacts) :
    roots (enterOther st kind caller to value input gas f).tracer.tree = roots st.tracer.tree :=
  by rw [enterOther_eq]; exact ends_roots

theorem haltFrame_roots (st : FState) (fr : OpenFrame) (rest : List OpenFrame) (ret : Option Bytes) (err : Option String)
    (gasLeft : Nat) (post : JPResult) : roots (haltFrame st fr rest ret err gasLeft post).tracer.tree = roots st.tracer.tree :=
  (haltFrame_halts ..).tree_mod_exit roots roots_exit

theorem step_roots (st : FState) (ev : FEvent) (h : st.tracer.tree.current = cursorOf st.stack none) :
    roots (Frame.step st ev).tracer.tree = roots st.tracer.tree + topLevelEnters st [ev] := by
  generalize Frame.step st ev = st', step_shape st ev = hS
  cases hS with
  | @enters k =>
    rw [ends_roots, h, CallKind.nodeFor_isSome]
    cases k <;> simp [topLevelEnters, CallKind.pushesNode, CallKind.isCreate]
  | halts _ hH => exact hH.tree_mod_exit roots roots_exit
  | idle ev _ hev =>
    cases ev with
    | enter k c t v i g f => exact absurd rfl (hev k c t v i g f)
    | _ => rfl
  | _ => rfl

theorem run_roots (st : FState) (evs : List FEvent) (h : FullInv none st) :
    roots (Frame.run st evs).tracer.tree = roots st.tracer.tree + topLevelEnters st evs := by
  induction evs generalizing st with
  | nil => rfl
  | cons e es ih =>
    rw [Frame.run_cons, ih _ (step_tree none st e h), step_roots st e h.1.2.1]
    simp only [topLevelEnters]
    omega

/-- **every event sequence**: the parentless nodes of the recorded tree are exactly the top-level invocations -/
theorem c07_roots_are_top_level (evs : List FEvent) : roots (Frame.run {} evs).tracer.tree = topLevelEnters {} evs := by
  rw [run_roots {} evs fullInv_init]; exact Nat.zero_add _

/-- non-vacuity: two top-level calls, the first making a nested call and a refused create → two roots among four nodes -/
example :
    let evs : List FEvent := [ .enter .call 0xca 0xc0 0 [] 1000 {}, .enter .call 0xc0 0xc1 0 [] 500 {}, .halt none none 100 ⟨none, 0, none⟩,
                               .enter .create 0xc0 0xdd 0 [0] 500 { collision := true }, .halt none none 100 ⟨none, 0, none⟩,
                               .enter .call 0xca 0xc0 0 [] 1000 {}, .halt none none 7 ⟨none, 0, none⟩ ]
    roots (Frame.run {} evs).tracer.tree = 2 ∧ (Frame.run {} evs).tracer.tree.count = 4 ∧ topLevelEnters {} evs = 2 := by decide +kernel

end Artela
