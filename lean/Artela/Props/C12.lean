import Artela.Model.Journal
import Artela.Proofs.GenFacts
/-
  C12 — journal instructions are invisible to execution and cost a constant fee.

  `Journal.step` is one interpreter step on a journal opcode.  What a contract can observe is the machine
  state minus the tracer.  That the real interpreter performs exactly this step (pops = arity, memory size
  unchanged, pc+1, cost 800, return-data buffer untouched, same in static frames, on every fork) is the
  correspondence (the harness specification lines `S jeffect` of go/layer_journal.go + the regenerated table rows
  `journal_rows_*`, `fee_bodies`).
-/
namespace Artela

/-- With well-formed operands the successor state is the old state with the operands popped, `pc+1`, the fee
    deducted and the tracer updated — and every other component equal (memory not even expanded, world,
    return-data buffer and static flag untouched). -/
theorem c12_effect_is_pops {World : Type} (op : JOp) (mkEnv : World → Bytes → JEnv) (m m' : JMachine World)
    (h : Journal.step op mkEnv m = .ok m') :
    m'.stack = m.stack.drop op.arity ∧ m'.mem = m.mem ∧ m'.pc = m.pc + 1 ∧ m'.gas + journalFee = m.gas ∧
    m'.rdata = m.rdata ∧ m'.readOnly = m.readOnly ∧ m'.world = m.world := by
  unfold Journal.step at h
  split at h
  · cases h
  · split at h
    · cases h
    · rename_i hg
      split at h
      · injection h with h
        subst h
        refine ⟨rfl, rfl, rfl, ?_, rfl, rfl, rfl⟩
        simp only
        omega
      · cases h
      · cases h

/-- The fee is the same non-zero constant for all eight instructions, all operands and all states. -/
theorem c12_fee_constant {World : Type} (op : JOp) (mkEnv : World → Bytes → JEnv) (m m' : JMachine World)
    (h : Journal.step op mkEnv m = .ok m') : m.gas - m'.gas = 800 ∧ (800 : Nat) ≠ 0 := by
  have := (c12_effect_is_pops op mkEnv m m' h).2.2.2.1
  unfold journalFee at this
  omega

/-- Static and non-static frames behave alike: the step never consults the read-only flag. -/
theorem c12_static_same {World : Type} (op : JOp) (mkEnv : World → Bytes → JEnv) (m : JMachine World) (b : Bool) :
    (Journal.step op mkEnv { m with readOnly := b }) =
      (match Journal.step op mkEnv m with
       | .ok m' => .ok { m' with readOnly := b }
       | .err e => .err e
       | .panic p => .panic p) := by
  unfold Journal.step
  simp only
  split
  · rfl
  · split
    · rfl
    · split <;> rfl

/-- With malformed operands (the opcode returns an error) the step is an exceptional halt: no successor state. -/
theorem c12_malformed_halts {World : Type} (op : JOp) (mkEnv : World → Bytes → JEnv) (m : JMachine World) (e : String)
    (hs : op.arity ≤ m.stack.length) (hg : journalFee ≤ m.gas)
    (h : (Journal.exec op (m.stack.take op.arity) (mkEnv m.world m.mem) m.tr).1 = .err e) :
    Journal.step op mkEnv m = .err e := by
  unfold Journal.step
  rw [if_neg (by omega), if_neg (by omega), h]

/-- The instructions exist with the same table entry in eight of the tables regenerated from the running code; the whole family
    (every fork Frontier … Cancun, every extra-EIP set) is `journal_rows` (Proofs/GenFacts.lean). -/
theorem c12_all_forks :
    Gen.forkFrontier.filter isJournalOp = journalRows ∧ Gen.forkHomestead.filter isJournalOp = journalRows ∧
    Gen.forkByzantium.filter isJournalOp = journalRows ∧ Gen.forkIstanbul.filter isJournalOp = journalRows ∧
    Gen.forkBerlin.filter isJournalOp = journalRows ∧ Gen.forkLondon.filter isJournalOp = journalRows ∧
    Gen.forkShanghai.filter isJournalOp = journalRows ∧ Gen.forkCancun.filter isJournalOp = journalRows :=
  ⟨journal_rows_Frontier, journal_rows_Homestead, journal_rows_Byzantium, journal_rows_Istanbul,
   journal_rows_Berlin, journal_rows_London, journal_rows_Shanghai, journal_rows_Cancun⟩

/-- non-vacuity: a value journal on a registered key succeeds and pops four operands -/
example :
    let tr0 : Tracer := ((Tracer.empty.saveStateKey 0xc1 none 5 (some 0) 7 0 [0x76]).1)
    let m : JMachine Unit := { stack := [5, 0, 32, 7, 99], mem := [], pc := 10, gas := 1000, rdata := [1], readOnly := true, world := (), tr := tr0 }
    (match Journal.step .vv (fun _ mem => { contract := 0xc1, mem := mem, memCap := mem.length, storage := fun _ => 42, keccak := fun _ => 0 }) m with
     | .ok m' => m'.stack == [99] && m'.pc == 11 && m'.gas == 200
     | _ => false) = true := by decide

end Artela
