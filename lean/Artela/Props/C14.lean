import Artela.Model.Precompile
import Artela.Spec.Abi
import Artela.Proofs.GoKit
import Artela.Proofs.GenFacts
/-
  C14 — the Artela precompiles decode payloads exactly and attribute writes to the caller.
-/
namespace Artela

theorem loadParamBytes_eq (input : Bytes) (cap i : Nat) (hlen : input.length < 2 ^ 63) (hcap : input.length ≤ cap) :
    ∃ e, loadParamBytes input cap i = (abiBytes input i).elim (.err e) .ok := by
  have hU := U64_eq
  unfold abiBytes loadParamBytes wordAt
  dsimp only
  rw [Nat.mul_comm i 32]
  -- the specification's three bounds in turn; the payload being shorter than 2^63, the code's checks say the same under each
  by_cases c0 : 32 * i + 32 ≤ input.length
  · rw [if_pos c0, if_neg (Nat.not_lt.2 c0)]
    generalize beNat (input.extract (32 * i) (32 * i + 32)) = o
    by_cases c1 : o + 32 ≤ input.length
    · rw [if_pos c1, if_neg (show ¬ o ≥ U64 by omega), if_neg (show ¬ (o > input.length ∨ input.length - o < 32) by omega)]
      generalize beNat (input.extract o (o + 32)) = n
      by_cases c2 : o + 32 + n ≤ input.length
      · rw [if_pos c2, if_neg (show ¬ n ≥ U64 by omega), if_neg (show ¬ n > input.length - (o + 32) by omega),
          goSlice_inside input (Nat.le_add_right _ _) c2 hcap]
        exact ⟨"", rfl⟩  -- no error here: any string will do
      · rw [if_neg c2]
        by_cases c2a : n ≥ U64
        · rw [if_pos c2a]; exact ⟨_, rfl⟩
        · rw [if_neg c2a, if_pos (show n > input.length - (o + 32) by omega)]; exact ⟨_, rfl⟩
    · rw [if_neg c1]
      by_cases c1a : o ≥ U64
      · rw [if_pos c1a]; exact ⟨_, rfl⟩
      · rw [if_neg c1a, if_pos (show o > input.length ∨ input.length - o < 32 by omega)]; exact ⟨_, rfl⟩
  · rw [if_neg c0, if_pos (Nat.lt_of_not_le c0)]
    exact ⟨_, rfl⟩

/-- `loadParamBytes` decodes exactly the ABI `bytes` value at head slot `i` — for every payload (any length a Go
    slice can have), every capacity, every head / length word including those ≥ 2^63, ≥ 2^64 and near 2^256 —
    and otherwise returns an error; it never panics. -/
theorem c14_load_exact (input : Bytes) (cap i : Nat) (hlen : input.length < 2 ^ 63) (hcap : input.length ≤ cap) :
    (∀ b, abiBytes input i = some b → loadParamBytes input cap i = .ok b) ∧
    (abiBytes input i = none → ∃ e, loadParamBytes input cap i = .err e) := by
  obtain ⟨e, h⟩ := loadParamBytes_eq input cap i hlen hcap
  rw [h]
  exact ⟨fun b hb => by rw [hb]; rfl, fun hn => ⟨e, by rw [hn]; rfl⟩⟩

/-- never a panic, for every payload -/
theorem c14_load_no_panic (input : Bytes) (cap i : Nat) (hlen : input.length < 2 ^ 63) (hcap : input.length ≤ cap) :
    (loadParamBytes input cap i).isPanic = false := by
  obtain ⟨e, h⟩ := loadParamBytes_eq input cap i hlen hcap
  rw [h]
  cases abiBytes input i <;> rfl

theorem run66_eq (frm : Addr) (input : Bytes) (cap : Nat) (hlen : input.length < 2 ^ 63) (hcap : input.length ≤ cap) :
    ∃ e0 e1, run66 (some frm) input cap =
      (abiBytes input 0).elim (.reject e0) fun k => (abiBytes input 1).elim (.reject e1) fun v => .call (.set frm k v) := by
  obtain ⟨e0, h0⟩ := loadParamBytes_eq input cap 0 hlen hcap
  obtain ⟨e1, h1⟩ := loadParamBytes_eq input cap 1 hlen hcap
  refine ⟨e0, e1, ?_⟩
  unfold run66
  dsimp only
  rw [h0, h1]
  cases abiBytes input 0 <;> cases abiBytes input 1 <;> rfl

/-- 0x66: with an execution context, the host's `SetAspectContext` is called with exactly `(ctx.from, key, value)`
    decoded from the payload per the ABI — or the call is rejected and no host call is made. -/
theorem c14_write_args (frm : Addr) (input : Bytes) (cap : Nat) (hlen : input.length < 2 ^ 63) (hcap : input.length ≤ cap) :
    (∀ k v, abiBytes input 0 = some k → abiBytes input 1 = some v → run66 (some frm) input cap = .call (.set frm k v)) ∧
    ((abiBytes input 0 = none ∨ abiBytes input 1 = none) → ∃ e, run66 (some frm) input cap = .reject e) := by
  obtain ⟨e0, e1, h⟩ := run66_eq frm input cap hlen hcap
  rw [h]
  constructor
  · intro k v hk hv
    rw [hk, hv]; rfl
  · intro hn
    cases hk : abiBytes input 0 with
    | none => exact ⟨e0, rfl⟩
    | some k =>
      rw [hk] at hn
      rw [hn.resolve_left (fun h => by cases h)]
      exact ⟨e1, rfl⟩

/-- 0x66 never panics, for every payload and either kind of instance -/
theorem c14_write_no_panic (ctxFrom : Option Addr) (input : Bytes) (cap : Nat) (hlen : input.length < 2 ^ 63) (hcap : input.length ≤ cap) :
    ∀ p, run66 ctxFrom input cap ≠ .panic p := by
  intro p
  cases ctxFrom with
  | none => intro h; cases h
  | some frm =>
    obtain ⟨e0, e1, h⟩ := run66_eq frm input cap hlen hcap
    rw [h]
    cases abiBytes input 0 <;> cases abiBytes input 1 <;> (intro h; cases h)

/-- 0x66 without execution context (CALLCODE / DELEGATECALL / STATICCALL): refused, no host call, no panic —
    for every payload. -/
theorem c14_write_without_context_refused (input : Bytes) (cap : Nat) :
    ∃ e, run66 none input cap = .reject e := ⟨_, rfl⟩

/-- attribution: whatever the payload says, a write is made under the execution context's `from` and under no
    other address. -/
theorem c14_attribution (ctxFrom : Option Addr) (input : Bytes) (cap : Nat) (a : Addr) (k v : Bytes)
    (h : run66 ctxFrom input cap = .call (.set a k v)) : ctxFrom = some a := by
  unfold run66 at h
  cases ctxFrom with
  | none => cases h
  | some f =>
    simp only at h
    split at h
    · cases h
    · cases h
    · split at h
      · cases h
      · cases h
      · injection h with h; injection h with h1; rw [h1]

/-- 0x64: the host gets exactly `(input[0:20] as address, input[20:])`; shorter payloads are rejected. -/
theorem c14_read_args (input : Bytes) :
    run64 input = if input.length < 20 then .reject "invalid input data length"
                  else .call (.get (beNat (input.take 20)) (input.drop 20)) := rfl

/-- 0x65: the host gets exactly the 32-byte payload as the hash; any other length is rejected. -/
theorem c14_sender_args (input : Bytes) :
    run65 input = if input.length ≠ 32 then .reject "invalid input data length" else .call (.jit input) := rfl

/-- the result is exactly the host's (error or value); the fee is the fixed 5000 charged before the run;
    with too little gas nothing runs. -/
theorem c14_fee_and_result (addr : Nat) (ctxFrom : Option Addr) (input : Bytes) (cap gas : Nat)
    (host : HostCall → Except String Bytes) :
    (gas < 5000 → runPrecompiled addr ctxFrom input cap gas host = (.err "out of gas", none)) ∧
    (∀ v g c, runPrecompiled addr ctxFrom input cap gas host = (.ok (v, g), c) → g + 5000 = gas) := by
  unfold runPrecompiled artelaPrecompileGas
  constructor
  · intro h; rw [if_pos h]
  · intro v g c h
    split at h
    · cases h
    · rename_i hg
      split at h
      · cases h
      · cases h
      · split at h
        · cases h
        · have h1 := congrArg Prod.fst h
          simp only [Res.ok.injEq, Prod.mk.injEq] at h1
          omega

/-- fork gate and table membership, regenerated from the running code (Proofs/GenFacts.lean); the fee is `artela_fees` /
    `fee_bodies` there and `c14_fee_and_result` -/
theorem c14_fork_gate_and_fee :
    (Gen.forkActiveBerlin.filter isArtelaAddr = ["64", "65", "66"]) ∧ (Gen.forkActiveIstanbul.filter isArtelaAddr = []) ∧
    Gen.forkPrecompilesBerlin.filter isArtelaPrecompile = ["64=aspcontext", "65=userOpSender", "66=contextWriter"] :=
  ⟨artela_active_from_berlin.1, artela_inactive_before_berlin.2.2.2.2.2.2.2, precompiles_berlin_delta.2⟩

/-- non-vacuity: a canonical encoding of `("k", 0xAABB)` decodes to exactly those values -/
example :
    let enc : Bytes := beBytes 32 0x40 ++ beBytes 32 0x80 ++ beBytes 32 1 ++ ([0x6b] ++ List.replicate 31 0) ++ beBytes 32 2 ++ ([0xaa, 0xbb] ++ List.replicate 30 0)
    abiBytes enc 0 = some [0x6b] ∧ abiBytes enc 1 = some [0xaa, 0xbb] := by decide +kernel

/-- negation witness for the code before the repair (D9): a head word of 2^64−32 wraps `dataOffset+32` to 0,
    passes the bound check and the slice expression `input[dataOffset:start]` panics. -/
theorem c14_witness_wraparound_panics :
    (loadParamBytesWrapping (beBytes 32 (2 ^ 64 - 32) ++ List.replicate 96 0) 128 0).isPanic = true := by decide +kernel

end Artela
