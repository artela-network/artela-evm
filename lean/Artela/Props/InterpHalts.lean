import Artela.Props.InterpGas
/-  C20 at the loop level: every continuing iteration costs gas (`TablePays`), so a frame halts within `gas + 1` iterations. -/
namespace Artela
namespace Interp
variable {World : Type}

/-- a row pays for a continuing step: a constant fee of at least 1, or the instruction always halts, or its
    dynamic-gas function has a positive floor (EXP: 10; journal instructions: the flat fee) -/
def paysRow (row : Row) (i : Instr) : Bool :=
  decide (1 ≤ row.cgas) ||
  (match i with
   | .stop | .ret | .revert => true
   | .exp => row.dyn == "gasExpFrontier" || row.dyn == "gasExpEIP158"
   | .journal _ => row.dyn == "makeGasJournal"
   | _ => false)

def TablePays (env : IEnv World) : Prop :=
  ∀ op row i, env.table op = some row → decode row.exec op = some i → paysRow row i = true

theorem exec_next_gas {env : IEnv World} {i : Instr} {s s' : IState World} (h : exec env i s = .next s') :
    s'.gas = s.gas := (exec_next h).gas

theorem exec_halting_never_next {env : IEnv World} {i : Instr} {s s' : IState World}
    (hi : i = .stop ∨ i = .ret ∨ i = .revert) : exec env i s ≠ .next s' := by
  rcases hi with rfl | rfl | rfl <;> dsimp only [exec, stackPanic] <;> (repeat' split) <;> exact nofun

/-- what `dynPart` leaves: the state itself (no dynamic-gas function) or the state after paying the dynamic cost -/
theorem dynPart_next {op : Nat} {row : Row} {s s1 : IState World} (h : dynPart op row s = .next s1) :
    (row.dyn = "-" ∧ s1 = s) ∨
    (row.dyn ≠ "-" ∧ ∃ m c l, dynGasOf row.dyn s.stack s.mem.length s.last m = .cost c l ∧ c ≤ s.gas ∧ s1.gas = s.gas - c) := by
  obtain h | ⟨hd, m, c, l, _, hc, hle, rfl⟩ := dynPart_out h
  · exact .inl h
  · exact .inr ⟨hd, m, c, l, hc, hle, rfl⟩

theorem dynGas_exp_floor {name : String} {st : List Word} {a b m c l : Nat}
    (hn : name = "gasExpFrontier" ∨ name = "gasExpEIP158") (h : dynGasOf name st a b m = .cost c l) : 10 ≤ c := by
  obtain ⟨hm, _⟩ | ⟨_, _, rfl⟩ := dynGasOf_out h
  · rcases hn with rfl | rfl <;> simp at hm
  · rcases hn with rfl | rfl <;> simp [dynExtra]

theorem dynGas_journal_floor {st : List Word} {a b m c l : Nat}
    (h : dynGasOf "makeGasJournal" st a b m = .cost c l) : c = journalFee := by
  obtain ⟨hm, _⟩ | ⟨_, _, rfl⟩ := dynGasOf_out h
  · simp at hm
  · simp [dynExtra]

/-- every continuing step of the loop costs at least one unit of gas -/
theorem step_progress {env : IEnv World} (hp : TablePays env) {s s' : IState World} (h : step env s = .next s') :
    s'.gas < s.gas := by
  obtain ⟨row, i, s1, hr, hd, _, _, h3, hs1, h⟩ := step_next_inv h
  have hpay := hp _ _ _ hr hd
  rw [exec_next_gas h]
  have hdp := dynPart_out hs1
  simp only [paysRow, Bool.or_eq_true, decide_eq_true_eq] at hpay
  rcases hpay with hc | hi
  · -- constant fee ≥ 1
    rcases hdp with ⟨_, rfl⟩ | ⟨_, m, c, l, _, _, _, rfl⟩
    · dsimp only; omega
    · dsimp only; omega
  · -- halting instruction, or a dynamic floor
    cases i <;> simp at hi
    case stop => exact absurd h (exec_halting_never_next (Or.inl rfl))
    case ret => exact absurd h (exec_halting_never_next (Or.inr (Or.inl rfl)))
    case revert => exact absurd h (exec_halting_never_next (Or.inr (Or.inr rfl)))
    case exp =>
      rcases hdp with ⟨hdash, _⟩ | ⟨_, m, c, l, _, hcost, hle, rfl⟩
      · rcases hi with hi | hi <;> rw [hdash] at hi <;> simp at hi
      · have := dynGas_exp_floor hi hcost
        dsimp only at hle ⊢; omega
    case journal j =>
      rcases hdp with ⟨hdash, _⟩ | ⟨_, m, c, l, _, hcost, hle, rfl⟩
      · rw [hdash] at hi; simp at hi
      · rw [hi] at hcost
        have := dynGas_journal_floor hcost
        simp only [journalFee] at this
        dsimp only at hle ⊢; omega

/-- C20 at the loop level: a frame of the modelled subset halts within `gas + 1` instructions — the work of a frame
    is bounded by the gas it was given, for every program, input and table that pays (all extracted tables do) -/
theorem run_halts_within_gas {env : IEnv World} (hp : TablePays env) (n : Nat) (s : IState World) (hn : s.gas < n) :
    ∀ s', run env n s ≠ .next s' := fun s' h => by
  have := run_measure (μ := (·.gas)) (fun _ _ => step_progress hp) n s s' h
  omega

end Interp
end Artela
