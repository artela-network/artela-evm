import Artela.Proofs.FrameShape
/-
  C06 — gas passes through join points without being created, lost or misreported.
  Statements about `EVM.Call`'s epilogue (`haltFrame`) and the rules it applies (`postJoinPoint`, `tailGas`), for every
  join-point outcome `(ret, gas, err)` and every interpreter result; the prologue's part is in C06Run.
-/
namespace Artela
open Frame

/-- the common gas rule: success and revert keep the gas, every other error forfeits it -/
theorem c06_gas_rule (g : Nat) (e : String) :
    tailGas g none = g ∧ tailGas g (some errReverted) = g ∧ (e ≠ errReverted → tailGas g (some e) = 0) := by
  refine ⟨rfl, by simp [tailGas], fun h => by simp [tailGas, h]⟩

/-- **Returned gas.** After the callee's code ran, the caller gets back exactly what the post join point left if
    the final outcome is success or a revert, and nothing otherwise; without a join point the same holds for the
    interpreter's leftover. -/
theorem c06_returned_gas (st : FState) (fr : OpenFrame) (rest : List OpenFrame) (ret : Option Bytes) (err : Option String)
    (gasLeft : Nat) (post : JPResult) (hk : fr.kind = .call) :
    ∃ r, (haltFrame st fr rest ret err gasLeft post).results = st.results ++ [r] ∧
      (fr.jpFired = true → r.err = (postJoinPoint ret err post).2.1 ∧ r.gas = tailGas post.gas r.err) ∧
      (fr.jpFired = false → r.err = err ∧ r.gas = tailGas gasLeft err) := by
  generalize haltFrame st fr rest ret err gasLeft post = st', haltFrame_halts st fr rest ret err gasLeft post = h
  cases h with
  | create hk' => rw [hk] at hk'; cases hk'
  | tail jp _ hjp ho =>
    subst ho
    refine ⟨_, rfl, fun hj => ?_, fun hj => ?_⟩
    · rw [hjp.2 ⟨hk, hj⟩]
      exact ⟨rfl, congrArg (tailGas · _) (postJoinPoint_gas ..)⟩
    · cases jp
      · exact ⟨rfl, rfl⟩
      · rw [(hjp.1 rfl).2] at hj; cases hj

/-- **Out of gas is normalised.** A post join point that fails with the text "out of gas" makes the frame fail with
    the EVM's own out-of-gas error, keeps the callee's return data out of the way and returns no gas. -/
theorem c06_post_oog_normalised (ret : Option Bytes) (err : Option String) (pr : Option Bytes) (pg : Nat) :
    postJoinPoint ret err ⟨pr, pg, some "out of gas"⟩ = (ret, some errOutOfGas, pg) ∧ tailGas pg (some errOutOfGas) = 0 := by
  constructor
  · simp [postJoinPoint, errOutOfGas]
  · simp [tailGas, errOutOfGas, errReverted]

/-- any other post-join-point failure that is not a revert forfeits the frame's gas like an exceptional halt; a
    successful post join point leaves the interpreter's error in place -/
theorem c06_post_failure (ret : Option Bytes) (err : Option String) (pr : Option Bytes) (pg : Nat) (e : String)
    (h1 : e ≠ errOutOfGas) (h2 : e ≠ errReverted) :
    postJoinPoint ret err ⟨pr, pg, some e⟩ = (pr, some e, pg) ∧ tailGas pg (some e) = 0 ∧
    postJoinPoint ret err ⟨pr, pg, none⟩ = (ret, err, pg) := by
  refine ⟨by simp [postJoinPoint, h1], by simp [tailGas, h2], by simp [postJoinPoint]⟩

/-- **Pre join point.** A failing pre join point makes the frame fail (out-of-gas text normalised) with the gas rule
    applied: nothing is returned unless the failure is a revert. -/
theorem c06_pre_failure_gas (pg : Nat) (e : String) :
    normaliseOOG e = e ∧ (e ≠ errReverted → tailGas pg (some (normaliseOOG e)) = 0) ∧
    tailGas pg (some (normaliseOOG errReverted)) = pg := by
  have h : normaliseOOG e = e := by unfold normaliseOOG; split <;> simp_all
  refine ⟨h, fun hne => by rw [h]; simp [tailGas, hne], by simp [normaliseOOG, tailGas, errReverted, errOutOfGas]⟩

/-- **No gas is created.** What a frame returns never exceeds what the last party in the chain left:
    `tailGas g e ≤ g`; so if the join points and the interpreter do not create gas, neither does the frame. -/
theorem c06_no_gas_created (supplied preGas gasLeft postGas : Nat) (e : Option String)
    (h1 : preGas ≤ supplied) (h2 : gasLeft ≤ preGas) (h3 : postGas ≤ gasLeft) : tailGas postGas e ≤ supplied := by
  have := tailGas_le_self postGas e
  omega

/-- non-vacuity: an Aspect burning 300 of 1000 in the post join point of a successful call -/
example : postJoinPoint (some [1]) none ⟨none, 700, none⟩ = (some [1], none, 700) ∧ tailGas 700 none = 700 := by decide

end Artela
