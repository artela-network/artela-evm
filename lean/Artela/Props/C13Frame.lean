import Artela.Proofs.FrameShape
/-
  C13 (frame part) — `EVM.Call` and `create` bracket exactly the transfers they make, and nothing else touches the
  balance journal.

  The balance journal lives in `tracer.states`.  `Call` files one `TransferWithRecord`, under the index of the node it has
  just pushed, iff it gets past the depth check, the balance check and the "non-existing account, no value" shortcut;
  `create` iff it gets past depth, balance, nonce and collision checks; the other prologues, every epilogue and every
  world effect leave the journal untouched (journal instructions touch only storage records: C10).
-/
namespace Artela
open Frame

@[simp] theorem finish_states (st : FState) (k : CallKind) (c t : Addr) (gs : Nat) (tn dbg top : Bool) (sg : Nat)
    (r : Option Bytes) (g : Nat) (e : Option String) (w en sn : List Effect) (ran : Bool) :
    (finish st k c t gs tn dbg top sg r g e w en sn ran).tracer.states = st.tracer.states := by
  unfold finish; cases tn <;> rfl

@[simp] theorem finish_tracer_noNode (st : FState) (k : CallKind) (c t : Addr) (gs : Nat) (dbg top : Bool) (sg : Nat)
    (r : Option Bytes) (g : Nat) (e : Option String) (w en sn : List Effect) (ran : Bool) :
    (finish st k c t gs false dbg top sg r g e w en sn ran).tracer = st.tracer := rfl

/-- `EVM.Call` reaches its `TransferWithRecord` -/
def callTransfers (depth value : Nat) (f : EnterFacts) : Prop :=
  ¬ depth > 1024 ∧ ¬ (value ≠ 0 ∧ ¬ f.canTransfer) ∧ ¬ (¬ f.exists_ ∧ f.precompile.isNone ∧ f.eip158 ∧ value = 0)

instance (depth value : Nat) (f : EnterFacts) : Decidable (callTransfers depth value f) := by unfold callTransfers; infer_instance

/-- `create` reaches its `TransferWithRecord` -/
def createTransfers (depth : Nat) (f : EnterFacts) : Prop :=
  ¬ depth > 1024 ∧ f.canTransfer ∧ ¬ f.nonceOverflow ∧ ¬ f.collision

instance (depth : Nat) (f : EnterFacts) : Decidable (createTransfers depth f) := by unfold createTransfers; infer_instance

/-- exactly one bracket per `Call` that transfers (also when the callee is a precompile, has no code, or its pre join
    point fails afterwards), none otherwise; it carries the four balances read around the host's `Transfer` -/
theorem c13_call_records_once (st : FState) (caller to : Addr) (value : Nat) (input : Bytes) (gas : Nat) (f : EnterFacts) :
    (enterCall st caller to value input gas f).tracer.states =
      if callTransfers st.stack.length value f
      then ((st.tracer.saveCall caller (some to) input value gas).transferRecord caller to f.balFrom f.balTo f.balFromAfter f.balToAfter).states
      else st.tracer.states := by
  rw [enterCall_eq]
  unfold callEnding
  by_cases h1 : st.stack.length > 1024
  · rw [if_pos h1, if_neg fun hc : callTransfers _ _ _ => hc.1 h1]; rfl
  rw [if_neg h1]
  by_cases h2 : value ≠ 0 ∧ ¬ f.canTransfer
  · rw [if_pos h2, if_neg fun hc : callTransfers _ _ _ => hc.2.1 h2]; rfl
  rw [if_neg h2]
  by_cases h3 : ¬ f.exists_ ∧ f.precompile.isNone ∧ f.eip158 ∧ value = 0
  · rw [if_pos h3, if_neg fun hc : callTransfers _ _ _ => hc.2.2 h3]; rfl
  rw [if_neg h3, if_pos (show callTransfers _ _ _ from ⟨h1, h2, h3⟩)]
  -- every ending that is left is `answered` or `runs`, which carry the bracket
  cases f.precompile <;> cases f.codeEmpty <;> cases f.jpEnabled <;> cases f.pre.err <;> rfl

/-- the bracket is filed under the call-tree index of the node pushed for this very call -/
theorem c13_call_record_index (t : Tracer) (caller to : Addr) (value : Nat) (input : Bytes) (gas : Nat) (bf bt af at_ : Nat) :
    ((t.saveCall caller (some to) input value gas).transferRecord caller to bf bt af at_).states =
      ((((t.states.saveBalance caller bf t.tree.count).saveBalance to bt t.tree.count).saveBalance caller af t.tree.count).saveBalance to at_ t.tree.count) := by
  -- rewriting the index first keeps `rfl` from comparing the four nested journals before it finds the indices agree
  have h : (t.saveCall caller (some to) input value gas).tree.currentIndex = t.tree.count := rfl
  simp only [Tracer.transferRecord, h]; rfl

theorem c13_create_records_once (st : FState) (kind : CallKind) (caller to : Addr) (value : Nat) (input : Bytes) (gas : Nat) (f : EnterFacts) :
    (enterCreate st kind caller to value input gas f).tracer.states =
      if createTransfers st.stack.length f
      then ((st.tracer.saveCall caller none input value gas).transferRecord caller to f.balFrom f.balTo f.balFromAfter f.balToAfter).states
      else st.tracer.states := by
  rw [enterCreate_eq]
  unfold createEnding
  by_cases h1 : st.stack.length > 1024
  · rw [if_pos h1, if_neg fun hc : createTransfers _ _ => hc.1 h1]; rfl
  rw [if_neg h1]
  by_cases h2 : ¬ f.canTransfer
  · rw [if_pos h2, if_neg fun hc : createTransfers _ _ => h2 hc.2.1]; rfl
  rw [if_neg h2]
  by_cases h3 : f.nonceOverflow = true
  · rw [if_pos h3, if_neg fun hc : createTransfers _ _ => hc.2.2.1 h3]; rfl
  rw [if_neg h3]
  by_cases h4 : f.collision = true
  · rw [if_pos h4, if_neg fun hc : createTransfers _ _ => hc.2.2.2 h4]; rfl
  · rw [if_neg h4, if_pos (show createTransfers _ _ from ⟨h1, Decidable.not_not.1 h2, h3, h4⟩)]; rfl

/-- `CallCode`, `DelegateCall`, `StaticCall` never touch the tracer -/
theorem c13_other_kinds_silent (st : FState) (kind : CallKind) (caller to : Addr) (value : Nat) (input : Bytes) (gas : Nat) (f : EnterFacts) :
    (enterOther st kind caller to value input gas f).tracer = st.tracer := by
  rw [enterOther_eq]
  cases otherEnding kind st.stack.length gas f <;> rfl

/-- no epilogue touches the balance journal -/
theorem c13_halt_silent (st : FState) (fr : OpenFrame) (rest : List OpenFrame) (ret : Option Bytes) (err : Option String)
    (gasLeft : Nat) (post : JPResult) : (haltFrame st fr rest ret err gasLeft post).tracer.states = st.tracer.states := by
  generalize haltFrame st fr rest ret err gasLeft post = st', haltFrame_halts st fr rest ret err gasLeft post = h
  cases h <;> exact finish_states ..

/-- world effects of the program (SSTORE, LOG, SELFDESTRUCT, …) never touch the tracer -/
theorem c13_effect_silent (st : FState) (id : Nat) : (step st (.effect id)).tracer = st.tracer := by
  simp only [step]; split <;> rfl

/-- non-vacuity: a value call that is refused for balance files nothing; one that goes through files the bracket -/
example : (enterCall {} 0xca 0xc0 5 [] 1000 { canTransfer := false }).tracer.states = ({} : StateChanges) ∧
    (enterCall {} 0xca 0xc0 5 [] 1000 { balFrom := 9, balTo := 1, balFromAfter := 4, balToAfter := 6 }).tracer.states.balance 0xca =
      some (some [(0, [[9], [4]])]) := by decide +kernel

end Artela
