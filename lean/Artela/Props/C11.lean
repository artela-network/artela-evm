import Artela.Proofs.KeyTreeKit
import Artela.Proofs.ChangeMapKit
/-
  C11 — key-tree lookups by name/index path and by slot agree with registrations.

  The model (Model/StateChanges.lean) is the code as written: per parent a first-wins map name ↦ child and,
  independently, a first-wins map (slot, offset) ↦ child; per account a flat first-wins index
  (slot, offset, type) ↦ key.  Full strength ("for every history both lookups reach the same record") is FALSE for
  this structure whenever two registrations conflict (same name / other key, same (slot, offset) / other type, same
  key / other path): the negation witnesses below are three-operation histories, replayed on the implementation by
  the correspondence (`S both-see …` lines; known finding D14).  Here: what holds of every state, one operation at a
  time; C11Global.lean: every conflict-free history.
-/
namespace Artela
open StateChanges

/-- a refused registration (offset out of range, unknown parent) leaves the whole tracer state unchanged -/
theorem c11_refused_registration_pure (s s' : StateChanges) (a : Addr) (parent : Option Word) (self : Word)
    (off : Option Word) (ty pty : Word) (name : Bytes) (e : String)
    (h : s.saveKey a parent self off ty pty name = (s', some e)) : s' = s := by
  rw [saveKey_eq] at h
  -- the only exits with an error are the two that return `s` itself
  have tail : ∀ s1 pid o, regTail s1 a pid self o ty name ≠ (s', some e) := fun s1 pid o h => by
    have := regTail_snd s1 a pid self o ty name
    rw [h] at this; cases this
  split at h
  · exact (congrArg Prod.fst h).symm
  · split at h
    · exact absurd h (tail _ _ _)
    · split at h
      · exact (congrArg Prod.fst h).symm
      · exact absurd h (tail _ _ _)

/-- the same in the form `ConflictFree` and `cfCheck` test a refusal -/
theorem saveKey_refused {s : StateChanges} {a : Addr} {parent : Option Word} {self : Word} {off : Option Word}
    {ty pty : Word} {name : Bytes} (h : (s.saveKey a parent self off ty pty name).2.isSome = true) :
    (s.saveKey a parent self off ty pty name).1 = s :=
  let ⟨e, he⟩ := Option.isSome_iff_exists.mp h
  c11_refused_registration_pure s _ a parent self off ty pty name e (Prod.ext rfl he)

/-- a refused change (offset out of range, unknown account, unregistered key) leaves the state unchanged -/
theorem c11_refused_change_pure (s s' : StateChanges) (a : Addr) (self : Word) (off : Option Word) (ty : Word)
    (i : Nat) (v : Bytes) (e : String) (h : s.saveChange a self off ty i v = (s', some e)) : s' = s := by
  rcases saveChange_cases s a self off ty i v with ⟨e', h'⟩ | ⟨o, id, _, _, h'⟩
  · exact (congrArg Prod.fst (h'.symm.trans h)).symm
  · cases congrArg Prod.snd (h'.symm.trans h)

/-- offsets beyond 31 (and therefore ≥ 2^64) are refused by registration, change and slot lookup alike -/
theorem c11_offset_range (o : Word) (h : o > 31) : checkOffset (some o) = none := by
  unfold checkOffset; simp [h]

/-- an accepted change goes to exactly the node the slot lookup returns -/
theorem c11_change_target (s s' : StateChanges) (a : Addr) (self : Word) (off : Option Word) (ty : Word)
    (i : Nat) (v : Bytes) (h : s.saveChange a self off ty i v = (s', none)) :
    ∃ o id, checkOffset off = some o ∧ s.findKey a self o ty = some id ∧
      s'.keys = s.keys.modify id (fun k => k.journal i v) ∧ s'.index = s.index ∧ s'.roots = s.roots := by
  rcases saveChange_cases s a self off ty i v with ⟨e, h'⟩ | ⟨o, id, ho, hid, h'⟩
  · cases congrArg Prod.snd (h'.symm.trans h)
  · cases congrArg Prod.fst (h'.symm.trans h)
    exact ⟨o, id, ho, hid, rfl, rfl, rfl⟩

/-- …and what it records there: the value is appended to the list of the call in progress unless it repeats the
    last entry (lists of other calls are untouched: `ChangeMap.append_other`) -/
theorem c11_journal_appends (m : ChangeMap) (i : Nat) (v : Bytes) :
    alookup i (m.append i v) = some (match alookup i m with
      | none => [v]
      | some l => if l.getLast? = some v then l else l ++ [v]) := by
  rw [ChangeMap.append_eq, alookup_aset_same, ChangeMap.at, appendDedup]
  cases alookup i m <;> simp

/-- the child names reported for a node are exactly those registered under it: a new name is appended, a name
    already present changes nothing (re-registration is idempotent on the name map) -/
theorem c11_children_names (keys : List KeyNode) (p cid : Nat) (slot : Word) (off : Nat) (name : Bytes) (pk : KeyNode)
    (hpk : keys[p]? = some pk) :
    ((addChild keys p cid slot off name).1[p]?.map childrenIndicesRaw) =
      some (if (alookup name pk.childrenIndex).isSome then childrenIndicesRaw pk else childrenIndicesRaw pk ++ [name]) := by
  unfold addChild
  simp only [hpk]
  cases alookup name pk.childrenIndex <;> cases alookup (slot, off) pk.children <;>
    simp [hpk, childrenIndicesRaw]

inductive KOp where
  | reg (a : Addr) (parent : Option Word) (self : Word) (off : Option Word) (ty pty : Word) (name : Bytes)
  | change (a : Addr) (self : Word) (off : Option Word) (ty : Word) (v : Bytes)

def KOp.apply (s : StateChanges) : KOp → StateChanges
  | .reg a p self off ty pty n => (s.saveKey a p self off ty pty n).1
  | .change a self off ty v => (s.saveChange a self off ty 0 v).1

def runK (ops : List KOp) : StateChanges := ops.foldl KOp.apply {}

/-- full strength (stated for top-level variables): in every history, for every accepted registration the lookup by
    name and the lookup by (slot, offset, type) return the same change record, whatever happens before and after -/
def c11_full : Prop :=
  ∀ (pre post : List KOp) (a self ty : Word) (o : Nat) (name : Bytes),
    ((runK pre).saveKey a none self (some o) ty 0 name).2 = none →
    (runK (pre ++ [.reg a none self (some o) ty 0 name] ++ post)).variableQ a name [] =
      ((runK (pre ++ [.reg a none self (some o) ty 0 name] ++ post)).slotQ a self (some o) ty).toOption.join

def witnessB : StateChanges := runK [.reg 1 none 5 (some 0) 7 0 [0x61], .reg 1 none 6 (some 0) 7 0 [0x61], .change 1 6 (some 0) 7 [0xee]]
def witnessA : StateChanges := runK [.reg 1 none 5 (some 0) 7 0 [0x61], .reg 1 none 5 (some 0) 8 0 [0x62]]
def witnessC : StateChanges := runK [.reg 1 none 5 (some 0) 7 0 [0x61], .reg 1 none 5 (some 0) 7 0 [0x62], .change 1 5 (some 0) 7 [0xee]]

/-- D14b: same name, other slot — the second registration takes the change through the slot lookup, the name still
    resolves to the first node -/
theorem c11_witness_same_name_two_slots :
    witnessB.variableQ 1 [0x61] [] = some none ∧ (witnessB.slotQ 1 6 (some 0) 7).toOption.join = some (some ([(0, [[0xee]])] : ChangeMap)) :=
  ⟨by decide +kernel, by decide +kernel⟩

/-- D14a: shared (slot, offset), distinct types — the second registration is accepted and reachable by name, but
    never enters the flat index: its changes are refused -/
theorem c11_witness_shared_slot_types :
    (witnessA.findKeyIndices 1 [0x62] []).isSome = true ∧ (witnessA.saveChange 1 5 (some 0) 8 0 [0xee]).2 = some "storage key node not found" := by
  decide +kernel

/-- D14c: the same (slot, offset, type) registered under two different paths — two nodes, only the first indexed -/
theorem c11_witness_same_key_two_paths :
    witnessC.variableQ 1 [0x62] [] = some none ∧ witnessC.variableQ 1 [0x61] [] = some (some ([(0, [[0xee]])] : ChangeMap)) :=
  ⟨by decide +kernel, by decide +kernel⟩

theorem c11_full_is_false : ¬ c11_full := by
  intro h
  have := h [.reg 1 none 5 (some 0) 7 0 [0x61]] [.change 1 6 (some 0) 7 [0xee]] 1 6 7 0 [0x61] (by decide +kernel)
  have h3 : ¬ (witnessB.variableQ 1 [0x61] [] = (witnessB.slotQ 1 6 (some 0) 7).toOption.join) := by decide +kernel
  exact h3 this

end Artela
