import Artela.Proofs.FrameTree
/-
  C07 (frame part) and C03 (v) — after any execution (`Frame.run {} evs`: any event sequence, any number of successive
  top-level invocations) the call tree is well formed and no call is left open.
-/
namespace Artela
open Frame CallTree

/-- the recorded call tree is well formed after every prefix of every execution -/
theorem c07_tree_wf_always (evs : List FEvent) : WF (run {} evs).tracer.tree :=
  (run_tree none {} evs fullInv_init).1.1

/-- while frames are open, the cursor is the node of the innermost CALL / CREATE frame in progress (this is the
    index under which journal entries are filed, C10) -/
theorem c07_cursor_is_innermost_node_frame (evs : List FEvent) :
    (run {} evs).tracer.tree.current = cursorOf (run {} evs).stack none :=
  (run_tree none {} evs fullInv_init).1.2.1

/-- **No call is left open**: whenever every frame has returned (the interpreter stack is empty — in particular
    after each top-level call or create returns, normally or not), the call-tree cursor is at rest. -/
theorem c07_closed_when_stack_empty (evs : List FEvent) (h : (run {} evs).stack = []) :
    (run {} evs).tracer.tree.current = none := by
  rw [c07_cursor_is_innermost_node_frame, h]; rfl

/-- C03 (v): call depth (the number of interpreter runs in progress) and the call-tree cursor are both back at
    rest together -/
theorem c03_bookkeeping_closed (evs : List FEvent) (h : (run {} evs).stack.length = 0) :
    (run {} evs).tracer.tree.current = none :=
  c07_closed_when_stack_empty evs (List.length_eq_zero_iff.mp h)

/-- non-vacuity: a create refused for collision inside a call, then a second top-level call — everything closed -/
example :
    let evs : List FEvent := [ .enter .call 0xca 0xc0 0 [] 1000 {}, .enter .create2 0xc0 0xdd 0 [0] 500 { collision := true },
                               .halt none none 100 ⟨none, 0, none⟩, .enter .call 0xca 0xc0 0 [] 1000 {}, .halt none (some "out of gas") 0 ⟨none, 0, none⟩ ]
    (run {} evs).stack.length = 0 ∧ (run {} evs).tracer.tree.count = 3 ∧ (run {} evs).tracer.tree.current = none := by decide +kernel

end Artela
