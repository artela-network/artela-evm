import Artela.Props.InterpHalts
import Artela.Props.InterpSafe
/-
  C20 for the frame-local instruction set: the work an iteration of the interpreter loop performs — memory it makes
  the frame allocate and zero, bytes it copies, word multiplications of EXP, all counted in 32-byte words — is at most
  twice the gas it is charged, plus one.
-/
namespace Artela
namespace Interp
variable {World : Type}

def wordsOf (n : Nat) : Nat := (n + 31) / 32

/-- word-sized operations `execute` performs, read off vm/instructions.go: the copy instructions build the padded source
    (`getData`: `make` + `copy`) and copy it into memory; RETURNDATACOPY and MCOPY copy once; KECCAK256 absorbs the hashed
    range word by word; EXP squares and multiplies once per exponent bit (`uint256.Exp`), 8 bits per counted exponent byte;
    CALLDATALOAD and PUSH build one padded word; everything else touches a constant number of words.  The journal instructions have their own work counter (M2, C20's journal part). -/
def execWork (i : Instr) (st : List Word) : Nat :=
  match i, st with
  | .calldatacopy, _ :: _ :: len :: _ => 2 * wordsOf (len % U64)
  | .codecopy, _ :: _ :: len :: _ => 2 * wordsOf (len % U64)
  | .returndatacopy, _ :: _ :: len :: _ => wordsOf (len % U64)
  | .mcopy, _ :: _ :: len :: _ => wordsOf (len % U64)
  | .exp, _ :: e :: _ => 16 * byteLen 32 e + 1
  | .keccak, _ :: size :: _ => wordsOf (size % U64) + 1
  | .calldataload, _ => 2
  | .push _, _ => 2
  | .journal _, _ => 0
  | _, _ => 1

/-- work of one iteration: words of memory the iteration allocates (and zeroes) in `Resize`, plus `execWork` -/
def stepWork (env : IEnv World) (s : IState World) : Nat :=
  match pre env s with
  | .next (i, s1) => (s1.mem.length - s.mem.length) / 32 + execWork i s1.stack
  | _ => 0

/-- memory is a whole number of words and `lastGasCost` is the fee already paid for it (the invariant `Memory.Resize` and
    `memoryGasCost` maintain together) -/
def MemInv (s : IState World) : Prop := s.mem.length % 32 = 0 ∧ s.last = memFee (s.mem.length / 32)

/-- the memory fee: growing from a whole number of words to `w` words costs at least 3 per new word, and keeps the invariant -/
theorem memoryGasCost_work {len last w g l : Nat} (hlen : len % 32 = 0) (hlast : last = memFee (len / 32)) (hw : w * 32 < U64)
    (h : memoryGasCost len last (w * 32) = some (g, l)) :
    3 * ((max len (w * 32) - len) / 32) ≤ g ∧ l = memFee (max len (w * 32) / 32) := by
  subst hlast
  rw [memoryGasCost_synced len (memoryGasCost_cap h)] at h
  cases h
  rcases Nat.le_total (w * 32) len with hle | hle
  · rw [Nat.max_eq_left hle, Nat.max_eq_left (show w ≤ len / 32 by omega), Nat.sub_self]
    exact ⟨by omega, rfl⟩
  · -- growth to `w` words: `memFee` rises by at least 3 for each
    have hw' : len / 32 ≤ w := by omega
    have := memFee_mono hw'
    rw [Nat.max_eq_right hle, Nat.max_eq_right hw', Nat.mul_div_cancel _ (by decide)]
    exact ⟨by omega, rfl⟩

theorem gasPart_facts {op : Nat} {row : Row} {s s1 : IState World} {m : Nat} (h : gasPart op row s m = .next s1) :
    ∃ c l, dynGasOf row.dyn s.stack s.mem.length s.last m = .cost c l ∧ c ≤ s.gas ∧ s1.gas = s.gas - c ∧ s1.last = l ∧
      s1.stack = s.stack ∧ s1.mem = (if m > 0 then memResize s.mem m else s.mem) := by
  obtain ⟨c, l, hc, hle, rfl⟩ := gasPart_out h
  exact ⟨c, l, hc, hle, rfl, rfl, rfl, (memResize_if s.mem m).symm⟩

theorem dynPart_facts {op : Nat} {row : Row} {s s1 : IState World} (h : dynPart op row s = .next s1) :
    (row.dyn = "-" ∧ s1 = s) ∨
    (row.dyn ≠ "-" ∧ ∃ m, m % 32 = 0 ∧ m < U64 ∧ (row.mem = "-" → m = 0) ∧ gasPart op row s m = .next s1) := by
  unfold dynPart at h
  split at h
  · exact .inl ⟨‹_›, by cases h; rfl⟩
  · refine .inr ⟨‹_›, ?_⟩
    split at h
    · cases h
    · cases h
    · rename_i m hm
      obtain ⟨_, rfl⟩ | ⟨hne, _, _, rfl, hU⟩ := memPart_out hm
      · exact ⟨0, rfl, by decide, fun _ => rfl, h⟩
      · exact ⟨_, Nat.mul_mod_left _ _, hU, fun h0 => absurd h0 hne, h⟩

/-- a copy instruction is charged by the copier gas function, EXP by one of the EXP gas functions -/
def rowWork (row : Row) (i : Instr) : Bool :=
  match i with
  | .calldatacopy => row.dyn == "memoryCopierGas"
  | .codecopy => row.dyn == "memoryCopierGas"
  | .returndatacopy => row.dyn == "memoryCopierGas"
  | .mcopy => row.dyn == "memoryCopierGas"
  | .exp => row.dyn == "gasExpFrontier" || row.dyn == "gasExpEIP158"
  | .keccak => row.dyn == "gasKeccak256"
  | _ => true

def TableWork (env : IEnv World) : Prop :=
  ∀ op row i, env.table op = some row → decode row.exec op = some i → rowWork row i = true

theorem wordsOf_le_toWordSize {n : Nat} (h : n < U64) : wordsOf n ≤ toWordSize n := by
  have := words_mod_le n
  rwa [Nat.mod_eq_of_lt h] at this

/-- instructions whose work depends on an operand -/
def varWork : Instr → Bool
  | .calldatacopy | .codecopy | .returndatacopy | .mcopy | .exp | .keccak => true
  | _ => false

theorem execWork_le_two (i : Instr) (st : List Word) (hc : varWork i = false) : execWork i st ≤ 2 := by
  -- off the six instructions of `varWork`, `execWork` is 0, 1 or 2 whatever the stack holds
  cases i <;> first | cases hc; done | exact Nat.le_of_ble_eq_true rfl

/-- the gas functions that do not charge for memory leave `lastGasCost` alone -/
theorem dynGas_other_last {name : String} (h1 : name ≠ "pureMemoryGascost") (h2 : name ≠ "memoryCopierGas") (h3 : name ≠ "gasKeccak256")
    {st : List Word} {len last m c l : Nat} (h : dynGasOf name st len last m = .cost c l) : l = last := by
  obtain ⟨hm, _⟩ | ⟨_, hl, _⟩ := dynGasOf_out h
  · rcases hm with h | h | h <;> contradiction
  · exact hl

theorem mem_after (mem : Bytes) (m : Nat) : (if m > 0 then memResize mem m else mem).length = max mem.length m := by
  rw [memResize_if, memResize_length]

/-- what `rowWork` and `paysRow` say of work: `execute` does at most two word operations per unit of the constant fee and of what
    the dynamic-gas function adds to the memory fee, plus one -/
theorem execWork_paid {row : Row} {i : Instr} (hw : rowWork row i = true) (hp : paysRow row i = true) (st : List Word) :
    execWork i st ≤ 2 * (row.cgas + dynExtra row.dyn st) + 1 := by
  simp only [paysRow, Bool.or_eq_true, decide_eq_true_eq] at hp
  cases i
  case calldatacopy | codecopy | returndatacopy | mcopy =>
    simp only [rowWork, beq_iff_eq] at hw
    rcases st with _ | ⟨a, _ | ⟨b, _ | ⟨n, r⟩⟩⟩ <;> simp only [execWork] <;> (try omega)
    have := words_mod_le n
    simp [hw, dynExtra, back, wordsOf]; omega
  case keccak =>
    simp only [rowWork, beq_iff_eq] at hw
    rcases st with _ | ⟨a, _ | ⟨n, r⟩⟩ <;> simp only [execWork] <;> (try omega)
    have := words_mod_le n
    simp [hw, dynExtra, back, wordsOf]; omega
  case exp =>
    simp only [rowWork, beq_iff_eq, Bool.or_eq_true] at hw
    rcases st with _ | ⟨a, _ | ⟨e, r⟩⟩ <;> simp only [execWork] <;> (try omega)
    rcases hw with h | h <;> simp [h, dynExtra, back] <;> omega
  case calldataload | push => simp at hp; show 2 ≤ _; omega
  -- every other instruction does one word operation (a journal instruction none: it has its own counter)
  all_goals
    refine Nat.le_trans (m := 1) ?_ (Nat.le_add_left 1 _)
    first | exact Nat.le_refl 1 | exact Nat.zero_le 1

/-- one form for all safe rows: `memoryGasCost` of size 0 is `(0, lastGasCost)`, which also covers a row without size function -/
theorem dynPart_charge {op : Nat} {row : Row} {i : Instr} {s s1 : IState World} (hs : rowSafe row i = true)
    (h : dynPart op row s = .next s1) :
    ∃ w g l, memoryGasCost s.mem.length s.last (w * 32) = some (g, l) ∧ g + dynExtra row.dyn s.stack ≤ s.gas ∧
      s1 = { s with gas := s.gas - (g + dynExtra row.dyn s.stack), last := l, mem := memResize s.mem (w * 32) } := by
  have hfree : memoryGasCost s.mem.length s.last (0 * 32) = some (0, s.last) := rfl
  obtain ⟨hdash, rfl⟩ | ⟨_, m, c, l, hmp, hc, hle, rfl⟩ := dynPart_out h
  · exact ⟨0, 0, _, hfree, by simp [hdash, dynExtra], by simp [hdash, dynExtra, memResize_zero]⟩
  · obtain ⟨_, g, hg, rfl⟩ | ⟨⟨n1, n2, n3⟩, rfl, rfl⟩ := dynGasOf_out hc
    · obtain ⟨_, rfl⟩ | ⟨_, msz, _, rfl, _⟩ := memPart_out hmp
      · exact ⟨0, g, l, hg, hle, rfl⟩
      · exact ⟨_, g, l, hg, hle, rfl⟩
    · -- a gas function that does not charge for memory: the row has no memory-size function
      simp only [rowSafe, Bool.and_eq_true, beq_iff_eq, Bool.or_eq_true] at hs
      obtain ⟨⟨_, hmem⟩, hdyn⟩ := hs
      have hname : memName i = "-" := by
        rcases hdyn with ((h | h) | h) | h
        · exact h
        · exact absurd h n1
        · exact absurd h n2
        · exact absurd h n3
      obtain ⟨_, rfl⟩ | ⟨hne, _⟩ := memPart_out hmp
      · exact ⟨0, 0, _, hfree, by rwa [Nat.zero_add], by rw [Nat.zero_add]⟩
      · exact absurd (hmem.trans hname) hne

/-- **the part before `execute`**: it keeps the memory invariant, and what it allocates plus what the instruction is about to do
    is paid for — at most two word operations per unit of gas charged, plus one -/
theorem pre_work {env : IEnv World} (hS : TableSafe env) (hP : TablePays env) (hW : TableWork env)
    {s s1 : IState World} {i : Instr} (hI : MemInv s) (hp : pre env s = .next (i, s1)) :
    MemInv s1 ∧ (s1.mem.length - s.mem.length) / 32 + execWork i s1.stack ≤ 2 * (s.gas - s1.gas) + 1 := by
  obtain ⟨row, hr, hd, _, _, h3, hdp⟩ := pre_next_inv hp
  obtain ⟨w, g, l, hg, hle, rfl⟩ := dynPart_charge (hS _ _ _ hr hd) hdp
  -- of the charge `cgas + g + dynExtra`, `g` pays 3 per new word of memory and the rest pays for `execute`
  have hwU : w * 32 < U64 := Nat.lt_of_le_of_lt (memoryGasCost_cap hg) (by decide)
  obtain ⟨hfee, hl⟩ := memoryGasCost_work hI.1 hI.2 hwU hg
  have hwk := execWork_paid (hW _ _ _ hr hd) (hP _ _ _ hr hd) s.stack
  have hml := memResize_length s.mem (w * 32)
  have h32 := hI.1
  dsimp only at hle ⊢
  exact ⟨⟨by rw [hml]; omega, by rw [hl, hml]⟩, by rw [hml]; omega⟩

theorem exec_next_last {env : IEnv World} {i : Instr} {s s' : IState World} (h : exec env i s = .next s') :
    s'.last = s.last := (exec_next h).last

/-- the work bound of one iteration needs neither `EnvOK` nor `Inv`: `execute` keeps the memory length and `lastGasCost` whatever it does -/
theorem step_work_memInv {env : IEnv World} (hS : TableSafe env) (hP : TablePays env) (hW : TableWork env)
    {s s' : IState World} (hI : MemInv s) (h : step env s = .next s') :
    MemInv s' ∧ stepWork env s ≤ 2 * (s.gas - s'.gas) + 1 := by
  obtain ⟨i, s1, hp, hex⟩ := stepWith_next h
  obtain ⟨hI1, hwk⟩ := pre_work hS hP hW hI hp
  have hx := exec_next hex
  refine ⟨⟨by rw [hx.memLen]; exact hI1.1, by rw [hx.last, hx.memLen]; exact hI1.2⟩, ?_⟩
  unfold stepWork
  rw [hp]
  dsimp only
  rw [hx.gas]
  exact hwk

/-- **One iteration**: on a table that is safe, pays and charges copies by the word, an iteration that continues has done at
    most two word operations per unit of gas it was charged, plus one; the memory invariant is kept. -/
theorem step_work {env : IEnv World} (hS : TableSafe env) (hP : TablePays env) (hW : TableWork env) (hE : EnvOK env)
    {s s' : IState World} (hI : MemInv s) (hinv : Inv s) (h : step env s = .next s') :
    MemInv s' ∧ Inv s' ∧ stepWork env s ≤ 2 * (s.gas - s'.gas) + 1 :=
  let ⟨hI', hw⟩ := step_work_memInv hS hP hW hI h
  ⟨hI', (step_safe hS hE s hinv).2 s' h, hw⟩

def runWork (env : IEnv World) : Nat → IState World → Nat
  | 0, _ => 0
  | n + 1, s =>
    match step env s with
    | .next s' => stepWork env s + runWork env n s'
    | _ => stepWork env s

/-- the last iteration of a frame (the one that halts) also stays within the bound, against the gas the iteration started with -/
theorem step_work_halt {env : IEnv World} (hS : TableSafe env) (hP : TablePays env) (hW : TableWork env)
    {s : IState World} (hI : MemInv s) : stepWork env s ≤ 2 * s.gas + 1 := by
  unfold stepWork
  split
  · have := (pre_work hS hP hW hI ‹_›).2
    omega
  · exact Nat.zero_le _

theorem run_work_memInv {env : IEnv World} (hS : TableSafe env) (hP : TablePays env) (hW : TableWork env)
    (n : Nat) (s : IState World) (hI : MemInv s) : runWork env n s ≤ 2 * s.gas + n := by
  induction n generalizing s with
  | zero => exact Nat.zero_le _
  | succ n ih =>
    unfold runWork
    split
    · rename_i s' hs
      obtain ⟨hI', hw⟩ := step_work_memInv hS hP hW hI hs
      have := ih s' hI'
      have hg : s'.gas ≤ s.gas := by have := step_gas env s; rwa [hs] at this
      omega
    · have := step_work_halt hS hP hW hI
      omega

/-- **C20 (frame-local instruction set), whole frames**: a frame that starts with `g` gas performs at most `2·g` word operations
    plus one per iteration; with `run_halts_within_gas` (at most `g + 1` iterations) that is at most `3·g + 1`. -/
theorem run_work {env : IEnv World} (hS : TableSafe env) (hP : TablePays env) (hW : TableWork env) (hE : EnvOK env)
    (n : Nat) (s : IState World) (hI : MemInv s) (hinv : Inv s) : runWork env n s ≤ 2 * s.gas + n :=
  run_work_memInv hS hP hW n s hI

end Interp
end Artela
