import Artela.Proofs.JournalSafe
/-
  C20 — work done per instruction is bounded by the gas it pays.

  The model carries a work counter (`Work`: storage reads, bytes copied, bytes allocated).  What is proved:
  the value journal, the value-keyed registrations do O(1) work; the memory-keyed registrations copy at most the
  memory that already exists (paid for by memory-expansion gas) — NOT a fixed multiple of the flat 800 fee; the
  reference journal reads ⌈len/32⌉ slots with `len` decoded from one storage word — unbounded for the flat fee.
  The full statement is kept visible (`c20_full`); it is FALSE for the current code, witnessed below (known
  findings D5 and D7 in known_findings.jsonl).
-/
namespace Artela

/-- work of an instruction measured in one number: storage reads weigh 32 bytes each -/
def Work.total (w : Work) : Nat := 32 * w.reads + w.copied + w.alloc

/-- the full-strength statement: some constant `K` bounds the work of every journal instruction by `K · fee`
    for every operand tuple, memory and storage content -/
def c20_bound (K : Nat) : Prop :=
  ∀ (op : JOp) (args : List Word) (env : JEnv) (tr : Tracer), args.length = op.arity → env.WF →
    (Journal.exec op args env tr).2.total ≤ K * journalFee

/-- "a fixed multiple": a constant of any reasonable size (the EVM's own schedule pays ≥ 1 gas per 32 bytes
    copied or hashed and ≥ 100 gas per storage read, i.e. `K` would be well below 100) -/
def c20_full : Prop := ∃ K : Nat, K < 2 ^ 48 ∧ c20_bound K

/-- VVJNAL: at most one storage read, nothing copied or allocated — for every operand tuple. -/
theorem c20_value_journal (slot off width typeId : Word) (env : JEnv) (tr : Tracer) :
    (Journal.exec .vv [slot, off, width, typeId] env tr).2.total ≤ 32 := by
  obtain ⟨_, h1, h2, h3⟩ := vv_safe slot off width typeId env tr
  unfold Work.total; omega

/-- IVVVJNAL / IVVRJNAL (index key passed by value): no storage read, nothing copied. -/
theorem c20_value_key_journals (a b c d e f : Word) (env : JEnv) (tr : Tracer) :
    (Journal.exec .ivvv [a, b, c, d, e, f] env tr).2.total = 0 ∧ (Journal.exec .ivvr [a, b, c, d, e] env tr).2.total = 0 :=
  ⟨rfl, rfl⟩

/-- The four key-journal instructions that read a name / index from memory copy at most `32 + |memory|` bytes:
    bounded by memory that exists (whose expansion was paid for), not by the flat fee. -/
theorem c20_key_journal_partial (ptr : Word) (env : JEnv) (hwf : env.WF) (f : Bytes → Tracer × Option String) :
    (keyFromMem ptr env f).2.total ≤ 2 * (32 + env.mem.length) := by
  obtain ⟨_, h1, h2, h3⟩ := keyFromMem_safe ptr env hwf f
  unfold Work.total; omega

/-- RSVJNAL as an instance (the other three have the same shape). -/
theorem c20_rsv (ptr slot typeId : Word) (env : JEnv) (tr : Tracer) (hwf : env.WF) :
    (Journal.exec .rsv [ptr, slot, typeId] env tr).2.total ≤ 2 * (32 + env.mem.length) :=
  c20_key_journal_partial ptr env hwf _

/-- VRJNAL: `1 + ⌈len/32⌉` storage reads and `32·⌈len/32⌉` bytes appended, `len` being decoded from one storage word. -/
theorem c20_reference_journal_partial (slot typeId : Word) (env : JEnv) (tr : Tracer) (hwf : env.WF) :
    (Journal.exec .vr [slot, typeId] env tr).2.reads ≤ 1 + slotCount (env.storage slot / 2) ∧
    (Journal.exec .vr [slot, typeId] env tr).2.copied ≤ 32 * slotCount (env.storage slot / 2) :=
  let ⟨_, h1, h2, _⟩ := vr_safe slot typeId env tr hwf
  ⟨h1, h2⟩

/-- a storage word announcing a long string of `32·n` bytes, `n ≥ 1` -/
def longWord (n : Nat) : Word := 2 * (32 * n) + 1

theorem vr_reads_longWord (n : Nat) (hn : 1 ≤ n) (hs : 32 * n ≤ U64 - 32) (tr : Tracer) :
    (Journal.exec .vr [0, 0]
      { contract := 0, mem := [], memCap := 0, storage := fun _ => longWord n, keccak := fun _ => 0 } tr).2.reads = 1 + n := by
  have hU := U64_eq
  have hx : extractStorageLen (longWord n) = .ok (32 * n) := by
    rw [extractStorageLen_eq, if_neg (by unfold longWord; omega), show longWord n / 2 = 32 * n by unfold longWord; omega,
      if_neg (by omega), if_neg (by omega)]
  -- the environment in full: unification finds it only after a long search
  rw [vr_long 0 0 { contract := 0, mem := [], memCap := 0, storage := fun _ => longWord n, keccak := fun _ => 0 } tr
    (fun n => Nat.le_refl n) hx (by omega)]
  show 1 + slotCount (32 * n) = 1 + n
  rw [slotCount, Nat.mod_eq_of_lt (by omega)]; omega

/-- **Negation witness (D5)**: no constant below 2^48 bounds the reference journal's work by a multiple of its
    flat fee — for every such `K` a single storage word makes it perform more than `K · 800` units of work
    (lengths are limited to 2^64 only by `IsUint64`, so astronomically large constants are not refuted). -/
theorem c20_witness_reference_unbounded : ¬ c20_full := by
  have hU := U64_eq
  intro ⟨K, hK, h⟩
  have hn : 32 * (K * 800 + 1) ≤ U64 - 32 := by omega
  have := h .vr [0, 0] { contract := 0, mem := [], memCap := 0, storage := fun _ => longWord (K * 800 + 1), keccak := fun _ => 0 }
    {} rfl ⟨Nat.le_refl _, by simp [maxAlloc], fun n => Nat.le_refl n⟩
  have hr := vr_reads_longWord (K * 800 + 1) (by omega) hn {}
  unfold Work.total at this
  unfold journalFee at this
  rw [hr] at this
  omega

/-- what remains true of the whole family: every journal instruction's work is bounded by the memory that exists
    plus the decoded string length — the `…_partial` form of `c20_full` -/
theorem c20_partial (op : JOp) (args : List Word) (env : JEnv) (tr : Tracer) (ha : args.length = op.arity) (hwf : env.WF) :
    (Journal.exec op args env tr).2.total ≤
      2 * (32 + env.mem.length) + 32 + (match op, args with | .vr, [slot, _] => 96 * slotCount (env.storage slot / 2) | _, _ => 0) := by
  obtain ⟨ptr, f, h⟩ | ⟨r, h⟩ | ⟨a, b, c, d, rfl, rfl⟩ | ⟨a, b, rfl, rfl⟩ := Journal.exec_cases op args env tr ha
  · have := c20_key_journal_partial ptr env hwf f
    rw [h]; omega
  · rw [h]; exact Nat.zero_le _
  · have := c20_value_journal a b c d env tr
    omega
  · obtain ⟨_, h1, h2, h3⟩ := vr_safe a b env tr hwf
    unfold Work.total
    dsimp only
    omega

/-- non-vacuity: the bound already fails for K = 1 -/
example : ¬ c20_bound 1 := fun h => c20_witness_reference_unbounded ⟨1, by decide, h⟩

end Artela
