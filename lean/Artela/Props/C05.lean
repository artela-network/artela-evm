import Artela.Proofs.CallReaches
/-
  C05 — join points fire exactly once per contract call, nested, with that call's data.

  Reading fixed here: a "message call that runs code of a contract" is an invocation of `EVM.Call` (top level or from
  the CALL opcode) that passes the depth and balance checks and whose target is not a precompile and has code.
  CALLCODE / DELEGATECALL / STATICCALL / creates fire no join point in this code base.
-/
namespace Artela
open Frame

/-- **Pre join point.** `EVM.Call` invokes the pre join point exactly once iff the call reaches the contract's code
    with join points enabled — with exactly this call's caller, callee, calldata (any length, also empty), value,
    supplied gas and call-tree index — and never otherwise (precompiles, code-less accounts, refused calls, join
    points switched off). -/
theorem c05_pre_exactly_once (st : FState) (caller to : Addr) (value : Nat) (input : Bytes) (gas : Nat) (f : EnterFacts) :
    (enterCall st caller to value input gas f).jps =
      st.jps ++ (if reachesCode st.stack.length value f ∧ f.jpEnabled = true
                 then [JPRecord.pre caller to input value gas (st.tracer.saveCall caller (some to) input value gas).tree.currentIndex] else []) := by
  rw [enterCall_eq, ends_jps]
  by_cases h : reachesCode st.stack.length value f ∧ f.jpEnabled = true
  · rw [if_pos h, if_pos ((callEnding_jp_iff ..).2 h)]
    rfl
  · rw [if_neg h, if_neg (mt (callEnding_jp_iff ..).1 h)]
    exact (List.append_nil _).symm

/-- the index handed to the join point is the index of the call-tree node pushed for THIS call -/
theorem c05_index_is_this_call (t : Tracer) (caller to : Addr) (value : Nat) (input : Bytes) (gas : Nat) :
    (t.saveCall caller (some to) input value gas).tree.currentIndex = t.tree.count := rfl

/-- **Pre failed ⇒ no code, no post.** No frame is opened (so no instruction of the callee runs and no post join
    point is owed). -/
theorem c05_pre_failed_no_code (st : FState) (caller to : Addr) (value : Nat) (input : Bytes) (gas : Nat) (f : EnterFacts) (e : String)
    (hj : f.jpEnabled = true) (he : f.pre.err = some e) :
    (enterCall st caller to value input gas f).stack = st.stack ∧ (enterCall st caller to value input gas f).started = st.started := by
  rw [enterCall_eq]
  refine ends_quiet fun jp ig h => ?_
  by_cases hr : reachesCode st.stack.length value f
  · rw [callEnding_of_reachesCode hr, if_pos hj, he] at h
    cases h
  · exact (callEnding_of_not_reachesCode hr gas).2 jp ig h

/-- **Post join point.** When a frame's interpreter returns, the post join point is invoked exactly once iff the
    frame is a contract call whose pre join point ran, with the same call data, the interpreter's gas left, its
    actual return data and its error text; no other frame kind fires one. -/
theorem c05_post_exactly_once (st : FState) (fr : OpenFrame) (rest : List OpenFrame) (ret : Option Bytes) (err : Option String)
    (gasLeft : Nat) (post : JPResult) :
    (haltFrame st fr rest ret err gasLeft post).jps =
      st.jps ++ (if fr.kind = .call ∧ fr.jpFired = true
                 then [JPRecord.post fr.caller fr.to fr.input fr.value gasLeft fr.nodeIndex ret (err.getD "")] else []) := by
  generalize haltFrame st fr rest ret err gasLeft post = st', haltFrame_halts st fr rest ret err gasLeft post = h
  cases h with
  | tail jp _ hjp =>
    cases jp
    · rw [if_neg (mt hjp.2 nofun)]; exact (List.append_nil _).symm
    · rw [if_pos (hjp.1 rfl)]; rfl
  | create hk =>
    have : ¬ (fr.kind = .call ∧ fr.jpFired = true) := fun h => by rw [h.1] at hk; cases hk
    rw [if_neg this]
    exact (List.append_nil _).symm

/-- the other frame functions never touch the join-point log -/
theorem c05_other_kinds_silent (st : FState) (kind : CallKind) (caller to : Addr) (value : Nat) (input : Bytes) (gas : Nat) (f : EnterFacts) :
    (enterOther st kind caller to value input gas f).jps = st.jps ∧ (enterCreate st kind caller to value input gas f).jps = st.jps :=
  ⟨by rw [enterOther_eq, ends_jps, otherEnding_jp]; rfl, by rw [enterCreate_eq, ends_jps, createEnding_jp]; rfl⟩

/-- LIFO nesting: a post record is appended when the innermost frame is popped, so posts come in reverse order of
    the pres of the frames still open (the stack discipline of `step`) -/
theorem c05_halt_pops_innermost (st : FState) (fr : OpenFrame) (rest : List OpenFrame) (ret : Option Bytes) (err : Option String)
    (gasLeft : Nat) (post : JPResult) (hk : fr.kind = .call) : (haltFrame st fr rest ret err gasLeft post).stack = rest :=
  haltFrame_stack st fr rest ret err gasLeft post

/-- non-vacuity: a call with empty calldata to a contract with code and join points on fires its pre join point -/
example : (enterCall {} 0xca 0xc0 0 [] 1000 { jpEnabled := true, pre := ⟨none, 900, none⟩ }).jps = [JPRecord.pre 0xca 0xc0 [] 0 1000 0] := by
  decide +kernel

end Artela
