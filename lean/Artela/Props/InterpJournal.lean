import Artela.Proofs.InterpStep
/-
  C12 at the program level: a program run with its journal instructions, and the same program run with every
  journal instruction replaced by "pop the operands, charge the fee", go through the same observable states.
-/
namespace Artela
namespace Interp
variable {World : Type}

/-- the same state with another tracer: everything a contract can observe is unchanged -/
def IState.setTr (x : Tracer) (s : IState World) : IState World := { s with tr := x }

def Out.setTr (x : Tracer) : Out (IState World) → Out (IState World)
  | .next s => .next (s.setTr x)
  | .halt h g => .halt h g
  | .panic p => .panic p

/-- the specification side: a journal instruction that only pops its operands -/
def execPops (env : IEnv World) (i : Instr) (s : IState World) : Out (IState World) :=
  match i with
  | .journal j =>
    if s.stack.length < j.arity then stackPanic
    else .next { s with stack := s.stack.drop j.arity, pc := s.pc + 1 }
  | _ => exec env i s

/-- the loop body with `execPops` in place of `exec` (everything else is the code's own loop body) -/
def stepPops (env : IEnv World) (s : IState World) : Out (IState World) := stepWith execPops env s

def runPops (env : IEnv World) : Nat → IState World → Out (IState World)
  | 0, s => .next s
  | fuel + 1, s =>
    match stepPops env s with
    | .next s' => runPops env fuel s'
    | o => o

/-- no instruction but the journal ones looks at the tracer -/
theorem exec_setTr (env : IEnv World) (i : Instr) (hi : i.isJournal = false) (x : Tracer) (s : IState World) :
    exec env i (s.setTr x) = (exec env i s).setTr x := by
  -- every branch rebuilds the state from `s` by a record update that leaves `tr` alone: once the branch is fixed, `rfl`
  cases i
  case journal => cases hi
  all_goals
    dsimp only [exec, IState.cont, stackPanic, IState.setTr]
    generalize s.stack = st
    repeat' split
  all_goals rfl

theorem dynPart_setTr (op : Nat) (row : Row) (x : Tracer) (s : IState World) :
    dynPart op row (s.setTr x) = (dynPart op row s).setTr x := by
  unfold dynPart
  split
  · rfl
  · have hm : memPart op row (s.setTr x) = memPart op row s := by
      unfold memPart; simp only [IState.setTr]
    rw [hm]
    cases memPart op row s with
    | halt h g => rfl
    | panic p => rfl
    | next m =>
      dsimp only
      unfold gasPart
      simp only [IState.setTr]
      cases dynGasOf row.dyn s.stack s.mem.length s.last m with
      | unmodelled => rfl
      | stackPanic => rfl
      | overflow => rfl
      | cost c l =>
        dsimp only
        by_cases hg : s.gas < c <;> simp [hg, Out.setTr, IState.setTr]

/-- the part before `execute` does not look at the tracer -/
theorem pre_setTr (env : IEnv World) (x : Tracer) (s : IState World) :
    pre env (s.setTr x) = (match pre env s with
      | .next (i, s1) => .next (i, s1.setTr x)
      | .halt h g => .halt h g
      | .panic p => .panic p) := by
  unfold pre
  have hd : ∀ row, dynPart (opAt env.code s.pc) row { s.setTr x with gas := s.gas - row.cgas }
      = (dynPart (opAt env.code s.pc) row { s with gas := s.gas - row.cgas }).setTr x := by
    intro row
    exact dynPart_setTr (opAt env.code s.pc) row x { s with gas := s.gas - row.cgas }
  simp only [IState.setTr] at hd ⊢
  cases env.table (opAt env.code s.pc) with
  | none => rfl
  | some row =>
    dsimp only
    cases decode row.exec (opAt env.code s.pc) with
    | none => rfl
    | some i =>
      dsimp only
      by_cases h1 : s.stack.length < row.minStack
      · simp only [h1, ↓reduceIte]
      · by_cases h2 : s.stack.length > row.maxStack
        · simp only [h1, h2, ↓reduceIte]
        · by_cases h3 : s.gas < row.cgas
          · simp only [h1, h2, h3, ↓reduceIte]
          · simp only [h1, h2, h3, ↓reduceIte]
            rw [hd row]
            cases dynPart (opAt env.code s.pc) row { s with gas := s.gas - row.cgas } <;> rfl

theorem execPops_of_not_journal (env : IEnv World) {i : Instr} (hi : i.isJournal = false) (s : IState World) :
    execPops env i s = exec env i s := by
  cases i <;> simp [Instr.isJournal] at hi <;> rfl

/-- a journal instruction that goes through leaves exactly what popping its operands leaves, tracer aside -/
theorem exec_journal_pops {env : IEnv World} {j : JOp} {s s' : IState World} (x : Tracer)
    (h : exec env (.journal j) s = .next s') : execPops env (.journal j) (s.setTr x) = .next (s'.setTr x) := by
  simp only [exec] at h
  simp only [execPops, IState.setTr]
  split at h
  · simp [stackPanic] at h
  · rename_i hlen
    simp only [hlen, ↓reduceIte]
    split at h
    · cases h; rfl
    · cases h
    · cases h

/-- a journal instruction halts only with an error (malformed operands) -/
theorem exec_journal_halt {env : IEnv World} {j : JOp} {s : IState World} {h : Halt} {g : Nat}
    (hs : exec env (.journal j) s = .halt h g) : ∃ e, h = .err e := by
  simp only [exec] at hs
  split at hs
  · simp [stackPanic] at hs
  · split at hs
    · cases hs
    · cases hs; exact ⟨_, rfl⟩
    · cases hs

/-- how the pops program's outcome `o'` follows the journal program's: the same up to the tracer, but for an error halt (malformed
    operands of a journal instruction: popping them cannot fail) -/
def PopsSim (x : Tracer) : Out (IState World) → Out (IState World) → Prop
  | .next s', o' => o' = .next (s'.setTr x)
  | .halt h g, o' => (∀ e, h ≠ .err e) → o' = .halt h g
  | .panic _, _ => True

theorem step_pops_sim (env : IEnv World) (x : Tracer) (s : IState World) :
    PopsSim x (step env s) (stepPops env (s.setTr x)) := by
  unfold step stepPops stepWith
  rw [pre_setTr env x s]
  cases pre env s with
  | halt h g => exact fun _ => rfl
  | panic p => trivial
  | next is1 =>
    obtain ⟨i, s1⟩ := is1
    dsimp only
    cases hi : i.isJournal with
    | false =>
      rw [execPops_of_not_journal env hi, exec_setTr env i hi x s1]
      cases exec env i s1 with
      | next s' => rfl
      | halt h g => exact fun _ => rfl
      | panic p => trivial
    | true =>
      cases i <;> cases hi
      cases h : exec env (.journal _) s1 with
      | next s' => exact exec_journal_pops x h
      | halt hh g => obtain ⟨e, rfl⟩ := exec_journal_halt h; exact fun hne => absurd rfl (hne e)
      | panic p => trivial

/-- **One iteration**: whenever the journal program continues, the pops program continues in the same observable
    state; this holds from any pair of states that differ in the tracer only -/
theorem step_pops_same {env : IEnv World} {s s' : IState World} (x : Tracer) (h : step env s = .next s') :
    stepPops env (s.setTr x) = .next (s'.setTr x) := by
  have := step_pops_sim env x s
  rwa [h] at this

/-- a halt that is not an error is reached by both programs alike -/
theorem step_pops_halt {env : IEnv World} {s : IState World} (x : Tracer) {h : Halt} {g : Nat}
    (hs : step env s = .halt h g) (hne : ∀ e, h ≠ .err e) : stepPops env (s.setTr x) = .halt h g := by
  have := step_pops_sim env x s
  rw [hs] at this
  exact this hne

/-- **C12 over whole runs**: for every program, table, input, world and number of steps — if the run with journal
    instructions is still going after `n` iterations, so is the run with pops, in the same state up to the tracer;
    if it has stopped, returned or reverted, the run with pops has done the same with the same gas and data. -/
theorem run_pops_same (env : IEnv World) (n : Nat) (s : IState World) (x : Tracer) :
    (∀ s', run env n s = .next s' → runPops env n (s.setTr x) = .next (s'.setTr x)) ∧
    (∀ h g, run env n s = .halt h g → (∀ e, h ≠ .err e) → runPops env n (s.setTr x) = .halt h g) := by
  induction n generalizing s with
  | zero => exact ⟨fun s' h => by cases h; rfl, fun h g hr => by cases hr⟩
  | succ n ih =>
    unfold run runPops
    cases hs : step env s with
    | next s1 => rw [step_pops_same x hs]; exact ih s1
    | halt hh gg =>
      refine ⟨nofun, fun h g hr hne => ?_⟩
      cases hr; rw [step_pops_halt x hs hne]
    | panic p => exact ⟨nofun, nofun⟩

theorem exec_keeps_tr {env : IEnv World} {i : Instr} (hi : i.isJournal = false) {s s' : IState World}
    (h : exec env i s = .next s') : s'.tr = s.tr := (exec_next h).tr hi

/-- a table without journal rows (go-ethereum's own tables; the fork's with 0xe0–0xe7 filtered out) -/
def StdTable (env : IEnv World) : Prop :=
  ∀ op row i, env.table op = some row → decode row.exec op = some i → i.isJournal = false

/-- C01 at the loop level: over the standard instruction set the Artela tracer is invisible — one iteration from two states that
    differ in the tracer only gives results that differ in the tracer only -/
theorem step_setTr_std {env : IEnv World} (hstd : StdTable env) (x : Tracer) (s : IState World) :
    step env (s.setTr x) = (step env s).setTr x := by
  unfold step stepWith
  rw [pre_setTr env x s]
  cases hp : pre env s with
  | halt h g => rfl
  | panic p => rfl
  | next is1 =>
    obtain ⟨i, s1⟩ := is1
    dsimp only
    obtain ⟨row, hr, hd, _⟩ := pre_next_inv hp
    exact exec_setTr env i (hstd _ _ _ hr hd) x s1

theorem run_setTr_std {env : IEnv World} (hstd : StdTable env) (n : Nat) (x : Tracer) (s : IState World) :
    run env n (s.setTr x) = (run env n s).setTr x := by
  induction n generalizing s with
  | zero => rfl
  | succ n ih =>
    unfold run
    rw [step_setTr_std hstd x s]
    cases step env s with
    | next s' => simp only [Out.setTr]; exact ih s'
    | halt h g => rfl
    | panic p => rfl

/-- the pops program never consults or changes the tracer: it ends with the tracer it started with -/
theorem runPops_tr (env : IEnv World) (n : Nat) (s s' : IState World) (h : runPops env n s = .next s') : s'.tr = s.tr := by
  induction n generalizing s with
  | zero => cases h; rfl
  | succ n ih =>
    unfold runPops at h
    split at h
    · rename_i s1 hs
      rw [ih s1 h]
      obtain ⟨i, s0, hp, hex⟩ := stepWith_next hs
      obtain ⟨row, _, _, _, _, _, hdp⟩ := pre_next_inv hp
      have h0 : s0.tr = s.tr := (dynPart_frame hdp).2.2.2.2.2.1
      rw [← h0]
      cases hi : i.isJournal with
      | false => exact exec_keeps_tr hi (execPops_of_not_journal env hi s0 ▸ hex)
      | true =>
        cases i <;> cases hi
        simp only [execPops] at hex
        split at hex <;> cases hex
        rfl
    · exact absurd h (‹∀ s', _ = Out.next s' → False› s')

end Interp
end Artela
