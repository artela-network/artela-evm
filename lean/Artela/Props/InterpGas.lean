import Artela.Proofs.InterpStep
/-  C02 / C06 at the loop level: gas never grows along a run. -/
namespace Artela
namespace Interp
variable {World : Type}

/-- what an outcome says about the gas: a continuing state's gas, or the gas reported at a halt -/
def Out.gasLe (o : Out (IState World)) (g : Nat) : Prop :=
  match o with
  | .next s => s.gas ≤ g
  | .halt _ g' => g' ≤ g
  | .panic _ => True

theorem exec_gas (env : IEnv World) (i : Instr) (s : IState World) : (exec env i s).gasLe s.gas := by
  cases h : exec env i s <;> have := exec_out h
  · exact Nat.le_of_eq this.gas
  · exact Nat.le_of_eq this
  · trivial

theorem Out.gasLe_mono {o : Out (IState World)} {a b : Nat} (h : o.gasLe a) (hab : a ≤ b) : o.gasLe b := by
  cases o with
  | next s => exact Nat.le_trans h hab
  | halt _ g => exact Nat.le_trans h hab
  | panic _ => trivial

theorem memPart_gas {op : Nat} {row : Row} {s : IState World} {h : Halt} {g : Nat}
    (hm : memPart op row s = .halt h g) : g = s.gas := by
  exact memPart_out hm

theorem gasPart_gas (op : Nat) (row : Row) (s : IState World) (m : Nat) : (gasPart op row s m).gasLe s.gas := by
  cases h : gasPart op row s m <;> have := gasPart_out h
  · obtain ⟨c, l, _, _, rfl⟩ := this; exact Nat.sub_le _ _
  · exact Nat.le_of_eq this
  · trivial

theorem dynPart_gas (op : Nat) (row : Row) (s : IState World) : (dynPart op row s).gasLe s.gas := by
  cases h : dynPart op row s <;> have := dynPart_out h
  · obtain ⟨_, rfl⟩ | ⟨_, _, _, _, _, _, _, rfl⟩ := this
    · exact Nat.le_refl _
    · exact Nat.sub_le _ _
  · exact Nat.le_of_eq this
  · trivial

/-- a halt before `execute` reports the gas the iteration started with, or that minus the constant fee -/
theorem pre_halt_gas {env : IEnv World} {s : IState World} {h : Halt} {g : Nat} (hp : pre env s = .halt h g) : g ≤ s.gas := by
  exact pre_out hp

theorem step_gas (env : IEnv World) (s : IState World) : (step env s).gasLe s.gas := by
  unfold step stepWith
  split
  · rename_i i s1 hp
    obtain ⟨row, _, _, _, _, _, hdp⟩ := pre_next_inv hp
    have hg := dynPart_gas (World := World) (opAt env.code s.pc) row { s with gas := s.gas - row.cgas }
    rw [hdp] at hg
    exact Out.gasLe_mono (exec_gas env i s1) (Nat.le_trans hg (Nat.sub_le _ _))
  · exact pre_halt_gas ‹_›
  · trivial

/-- C02 / C06 at the loop level: a frame of the modelled subset never ends or continues with more gas than it had -/
theorem run_gas (env : IEnv World) (n : Nat) (s : IState World) : (run env n s).gasLe s.gas :=
  run_inv (I := fun t => t.gas ≤ s.gas) (Q := fun o => o.gasLe s.gas) (fun _ h => h)
    (fun t ht => ⟨Out.gasLe_mono (step_gas env t) ht, fun s' hs' => by
      have := step_gas env t; rw [hs'] at this; exact Nat.le_trans this ht⟩) n s (Nat.le_refl _)

end Interp
end Artela
