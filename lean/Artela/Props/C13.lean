import Artela.Props.C10
/-
  C13 — the balance journal brackets every value transfer with the true balances (tracer part).

  `Tracer.transferRecord` is `TransferWithRecord` given the four balances it reads from the StateDB (before/after
  the host's `Transfer`).  Here: the order and the index of the four records and the list law of an account's
  balance record.  That the four numbers ARE the state balances at those instants is by construction of the call
  (the correspondence feeds the model the balances a wrapping `Transfer` really observed), and that `Call`/`create`
  invoke it exactly once per frame that reaches the transfer belongs to the frame layer.
-/
namespace Artela
open StateChanges

/-- the record of one transfer: before-from, before-to, after-from, after-to, in that order, all under the call-tree
    index of the frame in progress — including `from = to` and a zero value -/
theorem c13_transfer_record (t : Tracer) (frm to : Addr) (bf bt af at_ : Nat) :
    (t.transferRecord frm to bf bt af at_).states =
      ((((t.states.saveBalance frm bf t.tree.currentIndex).saveBalance to bt t.tree.currentIndex).saveBalance frm af
        t.tree.currentIndex).saveBalance to at_ t.tree.currentIndex) ∧
    (t.transferRecord frm to bf bt af at_).tree = t.tree := by
  -- unfolded first: a bare `rfl` makes the unifier search through `saveBalance` before it unfolds the left side
  unfold Tracer.transferRecord
  exact ⟨rfl, rfl⟩

/-- one balance observation touches only the root node of that account: it journals the minimal big-endian bytes
    of the balance under the given index; the flat index is untouched and so is every non-root key -/
theorem c13_saveBalance_local (s : StateChanges) (a : Addr) (b i : Nat) :
    ∃ r, (alookup a (s.ensureRoot a).1.roots = some r ∨ r = s.keys.length) ∧
      (s.saveBalance a b i).keys = (s.ensureRoot a).1.keys.modify (s.ensureRoot a).2 (fun k => k.journal i (minimalBytes b)) ∧
      (s.saveBalance a b i).index = s.index ∧ (s.saveBalance a b i).raw = s.raw := by
  have h : (s.ensureRoot a).1.index = s.index ∧ (s.ensureRoot a).1.raw = s.raw := by
    unfold ensureRoot; cases alookup a s.roots <;> exact ⟨rfl, rfl⟩
  exact ⟨s.keys.length, Or.inr rfl, rfl, h.1, h.2⟩

/-- the list law of a balance record: an observation equal to the last recorded value of that call is recorded once -/
theorem c13_balance_list_law (k : KeyNode) (i b : Nat) (hne : ∀ m, k.changes = some m → m.NonEmpty) :
    ((k.journal i (minimalBytes b)).changes.getD []).at i = appendDedup ((k.changes.getD []).at i) (minimalBytes b) ∧
    (∀ j, j ≠ i → ((k.journal i (minimalBytes b)).changes.getD []).at j = (k.changes.getD []).at j) :=
  c10_list_law k i (minimalBytes b) hne

/-- a root node stays a root node when a balance is journaled on it (it never turns into a data node) -/
theorem c13_root_stays_root (k : KeyNode) (i : Nat) (v : Bytes) (h : k.nodeType = .root) : (k.journal i v).nodeType = .root :=
  (journal_keeps k i v).2.2.2.2.2.1.mpr h

/-- instances: a transfer of 3 from an account holding 10 to one holding 0 in a fresh tracer, then a self-transfer -/
example :
    let t := (Tracer.empty.transferRecord 0xa1 0xa2 10 0 7 3)
    t.states.balance 0xa1 = some (some [(0, [[10], [7]])]) ∧ t.states.balance 0xa2 = some (some [(0, [[], [3]])]) :=
  ⟨by decide +kernel, by decide +kernel⟩

example : (Tracer.empty.transferRecord 0xa1 0xa1 10 10 10 10).states.balance 0xa1 = some (some [(0, [[10]])]) := by decide +kernel

end Artela
