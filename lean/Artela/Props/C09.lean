import Artela.Spec.Solidity
import Artela.Proofs.JournalSafe
/-
  C09 — journaled values equal the decoded storage content at the moment of journaling.

  Specification side: `solPacked` / `solString` (Spec/Solidity.lean), written from Solidity's layout
  rules, independently of the code's expressions.  Model side: `Journal.exec .vv / .vr`
  (Model/Journal.lean), a transcription of `opValueChangeJournal` / `opReferenceChangeJournal`.
-/
namespace Artela

/-- For every storage word and every valid packed field `(off, width)` the value journal records
    exactly the bytes Solidity's packed layout assigns to that field, under `(contract, slot, off, typeId)`. -/
theorem c09_value_exact (env : JEnv) (tr : Tracer) (slot off width typeId : Word)
    (hv : validPacked off width) (hw : env.storage slot < W256) :
    Journal.exec .vv [slot, off, width, typeId] env tr =
      (liftKey (tr.saveStateChange env.contract slot (some off) typeId (solPacked (env.storage slot) off width)),
       { reads := 1 }) := by
  obtain ⟨e, h⟩ := vv_eq slot off width typeId env tr
  rw [h, if_pos hv]

/-- Operands that do not denote a valid packed field are rejected with an error (the tracer is not
    touched: an `err` outcome carries no tracer). -/
theorem c09_value_rejects (env : JEnv) (tr : Tracer) (slot off width typeId : Word)
    (hv : ¬ validPacked off width) :
    ∃ e w, Journal.exec .vv [slot, off, width, typeId] env tr = (.err e, w) := by
  obtain ⟨e, h⟩ := vv_eq slot off width typeId env tr
  exact ⟨e, _, by rw [h, if_neg hv]⟩

theorem readSlots_eq_solDataArea (st : Word → Word) (k : Word) : ∀ n, readSlots st k n = solDataArea st k n
  | 0 => rfl
  | n + 1 => by simp only [readSlots, solDataArea, readSlots_eq_solDataArea st k n]; rfl

theorem solDataArea_length (st : Word → Word) (k : Word) : ∀ n, (solDataArea st k n).length = 32 * n := by
  intro n; rw [← readSlots_eq_solDataArea]; exact readSlots_length st k n

theorem solDataArea_prefix (st : Word → Word) (k : Word) (n : Nat) :
    ∀ m, ∃ tl, solDataArea st k (n + m) = solDataArea st k n ++ tl
  | 0 => ⟨[], by simp⟩
  | m + 1 => by
    obtain ⟨tl, h⟩ := solDataArea_prefix st k n m
    refine ⟨tl ++ beBytes 32 (st ((k + (n + m)) % W256) % W256), ?_⟩
    have : n + (m + 1) = (n + m) + 1 := by omega
    rw [this]
    simp only [solDataArea]
    rw [h, List.append_assoc]

/-- the model's read of `⌈len/32⌉` slots, cut to `len`, is the specification's data area cut to `len` -/
theorem take_dataArea (st : Word → Word) (k : Word) (len : Nat) (hl : len ≤ U64 - 32) :
    (solDataArea st k (slotCount len)).take len = (solDataArea st k (len / 32 + 1)).take len := by
  obtain ⟨h1, h2⟩ := slotCount_bounds len hl
  obtain ⟨tl, h⟩ := solDataArea_prefix st k (slotCount len) (len / 32 + 1 - slotCount len)
  have : slotCount len + (len / 32 + 1 - slotCount len) = len / 32 + 1 := by omega
  rw [this] at h
  rw [h, List.take_append_of_le_length (by rw [solDataArea_length]; exact h1)]

/-- clearing the length byte of an in-place string changes the lowest byte only -/
theorem take_mask (w len : Nat) (hl : len ≤ 31) : (bytes32 (w - w % 256)).take len = (bytes32 w).take len := by
  rw [bytes32_eq, bytes32_eq, beBytes_take_high 31 1 _ len hl, beBytes_take_high 31 1 _ len hl,
    show (w - w % 256) / 256 ^ 1 = w / 256 ^ 1 by omega]

theorem take_bytes32_mask (w len : Nat) (hw : w < W256) (hl : len ≤ 31) :
    (bytes32 (w - w % 256)).take len = (beBytes 32 (w % W256)).take len :=
  take_mask w len hl

/-- the three forms of a length word, for the specification and for the code's decoder at once -/
theorem solString_cases (st : Word → Word) (keccak : Bytes → Word) (slot : Word) :
    (st slot % 2 = 1 ∧ 32 ≤ st slot / 2 ∧
      extractStorageLen (st slot) = (if st slot / 2 > U64 - 32 then .error "storage too large to load" else .ok (st slot / 2)) ∧
      solString st keccak slot =
        some ((solDataArea st (keccak (beBytes 32 (slot % W256))) (st slot / 2 / 32 + 1)).take (st slot / 2))) ∨
    (st slot % 256 / 2 < 32 ∧ extractStorageLen (st slot) = .ok (st slot % 256 / 2) ∧
      solString st keccak slot = some ((beBytes 32 (st slot % W256)).take (st slot % 256 / 2))) ∨
    (solString st keccak slot = none ∧ extractStorageLen (st slot) = .error "storage encoding error") := by
  rw [extractStorageLen_eq]
  unfold solString
  dsimp only
  by_cases hodd : st slot % 2 = 1
  · rw [if_pos hodd, if_neg (by omega), show (st slot - 1) / 2 = st slot / 2 by omega]
    by_cases c : st slot / 2 ≥ 32
    · rw [if_pos c, if_neg (by omega)]; exact .inl ⟨hodd, c, rfl, rfl⟩
    · rw [if_neg c, if_pos (by omega)]; exact .inr (.inr ⟨rfl, rfl⟩)
  · rw [if_neg hodd, if_pos (by omega)]
    by_cases c : st slot % 256 / 2 < 32
    · rw [if_pos c, if_pos c]; exact .inr (.inl ⟨c, rfl, rfl⟩)
    · rw [if_neg c, if_neg c]; exact .inr (.inr ⟨rfl, rfl⟩)

/-- `c09_string_exact` without its bound on the storage word, and with the bound on the length for the out-of-place form only: an
    in-place string keeps its bytes in the high-order end of the word, so the word of a short string is as a rule far above 2^65 -/
theorem vr_exact (env : JEnv) (tr : Tracer) (slot typeId : Word) (b : Bytes) (hcap : ∀ n, n ≤ env.appendCap n)
    (hlen : env.storage slot % 2 = 1 → env.storage slot / 2 ≤ U64 - 32) (h : solString env.storage env.keccak slot = some b) :
    (Journal.exec .vr [slot, typeId] env tr).1 = liftKey (tr.saveStateChange env.contract slot none typeId b) := by
  obtain ⟨hodd, hl, hx, hb⟩ | ⟨hl, hx, hb⟩ | ⟨hb, _⟩ := solString_cases env.storage env.keccak slot
  · cases h.symm.trans hb
    have hlen := hlen hodd
    rw [if_neg (by omega)] at hx
    rw [vr_long slot typeId env tr hcap hx hl, readSlots_eq_solDataArea, take_dataArea _ _ _ hlen]
    rfl
  · cases h.symm.trans hb
    rw [vr_short slot typeId env tr hx hl, take_mask _ _ (by omega)]
    rfl
  · cases h.symm.trans hb

/-- For every stored bytes/string — any length (empty, the 31/32 boundary, multi-slot), any content
    (leading zero bytes included), any slot number — whose length word is a valid encoding, the reference
    journal records exactly the string's content. -/
theorem c09_string_exact (env : JEnv) (tr : Tracer) (slot typeId : Word) (b : Bytes)
    (hst : env.storage slot < W256)
    (hcap : ∀ n, n ≤ env.appendCap n)
    (hlen : env.storage slot / 2 ≤ U64 - 32)
    (h : solString env.storage env.keccak slot = some b) :
    (Journal.exec .vr [slot, typeId] env tr).1 =
      liftKey (tr.saveStateChange env.contract slot none typeId b) :=
  vr_exact env tr slot typeId b hcap (fun _ => hlen) h

/-- A length word that is not a valid string encoding is rejected with an error; nothing is recorded. -/
theorem c09_string_rejects (env : JEnv) (tr : Tracer) (slot typeId : Word)
    (h : solString env.storage env.keccak slot = none) :
    ∃ e w, Journal.exec .vr [slot, typeId] env tr = (.err e, w) := by
  obtain ⟨_, _, _, hb⟩ | ⟨_, _, hb⟩ | ⟨_, hx⟩ := solString_cases env.storage env.keccak slot
  · cases h.symm.trans hb
  · cases h.symm.trans hb
  · exact ⟨_, _, vr_err slot typeId env tr hx⟩

/-- A long-form length above 2^64 - 32 cannot be loaded — its slot count `(len+31)/32` would wrap around in uint64 arithmetic
    (`c09_slotcount_wraps`) — and is rejected (the guard `hlen` of `c09_string_exact`; repair D21 for the lengths below 2^64). -/
theorem c09_string_huge_rejected (env : JEnv) (tr : Tracer) (slot typeId : Word)
    (hodd : env.storage slot % 2 = 1) (hl : env.storage slot / 2 > U64 - 32) :
    ∃ e w, Journal.exec .vr [slot, typeId] env tr = (.err e, w) := by
  have hU := U64_eq
  have hx := extractStorageLen_eq (env.storage slot)
  rw [if_neg (by omega), if_neg (by omega), if_pos hl] at hx
  exact ⟨_, _, vr_err slot typeId env tr hx⟩

/-- why the guard is needed: for the largest 64-bit length the code's slot count is 0 (before the repair the empty result was
    then cut to that length: a slice-bounds panic) -/
theorem c09_slotcount_wraps : slotCount (U64 - 1) = 0 ∧ slotCount (U64 - 31) = 0 ∧ slotCount (U64 - 32) = U64 / 32 - 1 := by
  decide

/-- a packed `uint16` at offset 2 of a word -/
example : validPacked 2 2 ∧ solPacked 0x11223344 2 2 = [0x11, 0x22] := by decide

/-- a 3-byte string with a leading zero byte stored in place: `00 41 42`, length byte `2·3` -/
example : solString (fun _ => 0x0041420000000000000000000000000000000000000000000000000000000006) (fun _ => 0) 5
    = some [0x00, 0x41, 0x42] := by decide

/-- negation witness for the unrepaired code's behaviour (`Int.Bytes()` dropped leading zeros): the
    minimal big-endian form of the masked word starts with `41`, not `00`. -/
theorem c09_witness_minimal_bytes_shift :
    (minimalBytes 0x0041420000000000000000000000000000000000000000000000000000000000).take 3 ≠
      (beBytes 32 0x0041420000000000000000000000000000000000000000000000000000000000).take 3 := by decide

end Artela
