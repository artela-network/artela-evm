import Artela.Model.CallTracer
import Artela.Proofs.ArenaKit
/-
  C19 — call tracers account for every EVM and Aspect frame exactly once (model part).

  `CallTracer.step` is `callTracer`'s callbacks as a machine over call / Aspect enter / exit events, with Go's
  indexing partial.  Proved for EVERY event sequence (well nested or not): here, that the nested tracer never panics
  and that an Aspect's exit is recorded on the Aspect frame entered last on the current call, with its own gas used,
  output and error; in `C19Once.lean`, that a call that returns is filed exactly once (where — under the Aspect frame
  running on its parent, otherwise under the parent — is the `.exit` case of `step`, compared with the code by the
  harness).  The flat tracer's sub-trace counts and trace addresses are proved in `C19Flat.lean` under `PreFirst` and,
  like the rendered JSON against the call/Aspect tree the stream was generated from (`S ctrender`), checked on every
  run against trees from the grammar of the property (`S ctflatinv`).
-/
namespace Artela
open CallTracer

/-- the tracer's structural invariant: the call stack is never empty, its ids denote frames, and a frame on which a
    join point is executing has at least one Aspect frame -/
structure TInv (st : TState) : Prop where
  nonempty : st.stack ≠ []
  valid : ∀ id ∈ st.stack, id < st.frames.length
  jp : ∀ (i : Nat) (f : TFrame), st.frames[i]? = some f → f.curJP.isSome = true → f.jps ≠ []

theorem tinv_init (onlyTop : Bool) : TInv { onlyTop := onlyTop } :=
  ⟨by simp, by simp, by
    intro i f h hj
    cases i with
    | zero => simp at h; subst h; simp at hj
    | succ n => simp at h⟩

theorem getElem_opt_modify_some {α} (l : List α) (k i : Nat) (g : α → α) (x : α) (h : (l.modify k g)[i]? = some x) :
    ∃ x0, l[i]? = some x0 ∧ x = if k = i then g x0 else x0 :=
  getElem_opt_modify_some' l k i g x h

theorem forall_getElem_opt_modify {α} {P : α → Prop} {l : List α} (h : ∀ (i : Nat) x, l[i]? = some x → P x) (k : Nat) {g : α → α}
    (hg : ∀ x, P x → P (g x)) : ∀ (i : Nat) x, (l.modify k g)[i]? = some x → P x := by
  intro i x hx
  obtain ⟨x0, h0, rfl⟩ := getElem_opt_modify_some _ _ _ _ _ hx
  split
  · exact hg _ (h i x0 h0)
  · exact h i x0 h0

theorem forall_getElem_opt_snoc {α} {P : α → Prop} {l : List α} (h : ∀ (i : Nat) x, l[i]? = some x → P x) {y : α} (hy : P y) :
    ∀ (i : Nat) x, (l ++ [y])[i]? = some x → P x := by
  intro i x hx
  rcases getElem_opt_concat_some.1 hx with hx | ⟨_, rfl⟩
  · exact h i x hx
  · exact hy

/-- modifying frame fields other than `curJP` / `jps` keeps the invariant -/
theorem tinv_modify (st : TState) (h : TInv st) (k : Nat) (g : TFrame → TFrame)
    (hg : ∀ f, (g f).curJP = f.curJP ∧ (g f).jps = f.jps) : TInv { st with frames := st.frames.modify k g } :=
  ⟨h.nonempty, fun id hid => by simpa using h.valid id hid,
   forall_getElem_opt_modify h.jp k fun f hf => by rw [(hg f).1, (hg f).2]; exact hf⟩

theorem processCall_keeps (f : TFrame) (o : Bytes) (e : Option String) :
    (processCall f o e).curJP = f.curJP ∧ (processCall f o e).jps = f.jps := by
  unfold processCall
  cases e with
  | none => exact ⟨rfl, rfl⟩
  | some x => simp only; split <;> exact ⟨rfl, rfl⟩

/-- one callback from a state with `TInv` succeeds and keeps `TInv` -/
theorem c19_step_no_panic (st : TState) (h : TInv st) (ev : TEvent) : ∃ st', step st ev = .ok st' ∧ TInv st' := by
  cases ev with
  | txStart g => exact ⟨_, rfl, ⟨h.nonempty, h.valid, h.jp⟩⟩
  | txEnd rest => exact ⟨_, rfl, tinv_modify st h 0 _ (fun f => ⟨rfl, rfl⟩)⟩
  | start frm to create input gas value => exact ⟨_, rfl, tinv_modify st h 0 _ (fun f => ⟨rfl, rfl⟩)⟩
  | end_ output gasUsed err => exact ⟨_, rfl, tinv_modify st h 0 _ (fun f => processCall_keeps f output err)⟩
  | enter typ frm to input gas value =>
    simp only [step]
    split
    · exact ⟨_, rfl, ⟨h.nonempty, h.valid, h.jp⟩⟩
    · refine ⟨_, rfl, ⟨by simp, fun id hid => ?_, forall_getElem_opt_snoc h.jp (by simp)⟩⟩
      rw [List.length_append]
      rcases List.mem_cons.1 hid with rfl | hid
      · exact Nat.lt_succ_self _
      · exact Nat.lt_add_right _ (h.valid id hid)
  | exit output gasUsed err =>
    simp only [step]
    split
    · exact ⟨_, rfl, ⟨h.nonempty, h.valid, h.jp⟩⟩
    · split
      · rename_i hs; exact absurd hs h.nonempty
      · exact ⟨_, rfl, h⟩
      · rename_i c p rest hs
        have hp : p < st.frames.length := h.valid p (by rw [hs]; simp)
        have hvalid' : ∀ id ∈ p :: rest, id < st.frames.length := fun id hid => h.valid id (by rw [hs]; exact List.mem_cons_of_mem _ hid)
        cases hpf : st.frames[p]? with
        | none => rw [List.getElem?_eq_none_iff] at hpf; omega
        | some pf =>
          simp only
          have h1 := tinv_modify st h c (fun f => processCall { f with gasUsed := gasUsed } output err)
            (fun f => processCall_keeps { f with gasUsed := gasUsed } output err)
          cases hj : pf.curJP with
          | some j =>
            simp only
            have hne := h.jp p pf hpf (by simp [hj])
            cases hl : pf.jps.getLast? with
            | none => exact absurd (List.getLast?_eq_none_iff.mp hl) hne
            | some a =>
              exact ⟨_, rfl, ⟨by simp, fun id hid => by simp; exact hvalid' id hid, h1.jp⟩⟩
          | none =>
            simp only
            have h2 := tinv_modify _ h1 p (fun f => { f with calls := f.calls ++ [c] }) (fun f => ⟨rfl, rfl⟩)
            exact ⟨_, rfl, ⟨by simp, fun id hid => by simp; exact hvalid' id hid, h2.jp⟩⟩
  | aspectEnter jp frm to aspect input gas value =>
    simp only [step]
    split
    · exact ⟨_, rfl, h⟩
    · split
      · rename_i hs; exact absurd hs h.nonempty
      · exact ⟨_, rfl, h.nonempty, fun id hid => by simpa using h.valid id hid, forall_getElem_opt_modify h.jp _ fun f _ _ => by simp⟩
  | aspectExit jp gasLeft ret err =>
    simp only [step]
    split
    · exact ⟨_, rfl, h⟩
    · split
      · rename_i hs; exact absurd hs h.nonempty
      · rename_i last _ _
        have hjp := forall_getElem_opt_modify h.jp last (g := fun f => { f with curJP := none }) fun f _ hj => by simp at hj
        split <;> exact ⟨_, rfl, h.nonempty, fun id hid => by simpa using h.valid id hid, hjp⟩

theorem run_ok_of_step {I : TState → Prop} (hstep : ∀ st, I st → ∀ ev, ∃ st', step st ev = .ok st' ∧ I st') :
    ∀ (evs : List TEvent) (st : TState), I st → ∃ st', run st evs = .ok st' ∧ I st'
  | [], st, h => ⟨st, rfl, h⟩
  | ev :: rest, st, h => by
    obtain ⟨st1, h1, hi1⟩ := hstep st h ev
    simp only [run, h1]
    exact run_ok_of_step hstep rest st1 hi1

/-- **The nested call tracer never panics**, whatever sequence of callbacks it receives, in either configuration,
    and its invariant is kept. -/
theorem c19_no_panic (onlyTop : Bool) (evs : List TEvent) : ∃ st', run { onlyTop := onlyTop } evs = .ok st' ∧ TInv st' :=
  run_ok_of_step c19_step_no_panic evs _ (tinv_init onlyTop)

/-- an Aspect's exit is recorded on the Aspect frame entered last on the current call, with its own gas used,
    output and error; no other Aspect frame changes -/
theorem c19_aspect_exit_own_frame (st : TState) (last : Nat) (rest : List Nat) (f : TFrame) (a : Nat) (jp gasLeft : Nat) (ret : Bytes)
    (err : Option String) (hs : st.stack = last :: rest) (hf : st.frames[last]? = some f) (ha : f.jps.getLast? = some a)
    (hd : ¬ (st.onlyTop = true ∧ st.depth > 0)) :
    ∃ st', step st (.aspectExit jp gasLeft ret err) = .ok st' ∧
      st'.aspects = st.aspects.modify a (fun x => processAspect { x with gasUsed := (x.gas + U64 - gasLeft % U64) % U64 } ret err) := by
  simp only [step, hs, hf, Option.bind_some, ha, if_neg hd]
  exact ⟨_, rfl, rfl⟩

/-- non-vacuity: two Aspects on one join point, the second calling back into the EVM — both recorded on their own frames -/
example :
    (match run {} [ .txStart 100, .start 1 2 false [] 90 (some 0), .aspectEnter 4 1 2 0xa1 [] 50 none, .aspectExit 4 40 [1] none,
                    .aspectEnter 4 1 2 0xa2 [] 30 none, .enter "CALL" 0xa2 3 [] 10 (some 0), .exit [] 5 none, .aspectExit 4 10 [2] (some "x"),
                    .end_ [] 60 none, .txEnd 20 ] with
     | .ok st => st.aspects.map (fun x => (x.aspect, x.gasUsed, x.output, x.error, x.calls)) == [(0xa1, 10, [1], "", []), (0xa2, 20, [2], "x", [1])]
     | _ => false) = true := by decide +kernel

end Artela
