import Artela.Proofs.FrameTree
/-
  C08 — the call tree records every call attempt with inputs as made and outcome as seen.
-/
namespace Artela
open Frame CallTree

/-- **Every attempt, refused or not, pushes exactly one node with the inputs as made.** Right after `EVM.Call` is
    invoked the tree holds, at the next free index, a node with this call's caller, target, value, supplied gas and
    calldata (the model stores the bytes themselves: that the implementation keeps a copy and not a view of the
    caller's memory is what the correspondence checks after the whole transaction). -/
theorem c08_attempt_recorded (t : CallTree) (hwf : WF t) (caller : Addr) (to : Option Addr) (input : Bytes) (value gas : Nat) :
    (t.add caller to input value gas).nodes[t.count]? = some (mkNode caller to input value gas t.count t.current) ∧
    (t.add caller to input value gas).count = t.count + 1 :=
  ⟨add_nodes_new hwf.count_eq caller to input value gas, rfl⟩

/-- **Nothing later alters the recorded inputs, the index or the parent** — for every continuation of the
    execution (`Stable` is preserved by every tracer operation the frame layer performs). -/
theorem c08_inputs_immutable (t : CallTree) (ops : List Op) (i : Nat) (n : CallNode) (h : t.nodes[i]? = some n) :
    ∃ n', (t.run ops).nodes[i]? = some n' ∧ n'.frm = n.frm ∧ n'.to = n.to ∧ n'.data = n.data ∧ n'.value = n.value ∧
      n'.gas = n.gas ∧ n'.parent = n.parent ∧ n'.index = n.index := by
  obtain ⟨n', h1, hm⟩ := run_stable t ops i n h
  exact ⟨n', h1, (congrArg CallNode.frm hm :), (congrArg CallNode.to hm :), (congrArg CallNode.data hm :),
    (congrArg CallNode.value hm :), (congrArg CallNode.gas hm :), (congrArg CallNode.parent hm :), (congrArg CallNode.index hm :)⟩

/-- **Outcome as handed back.** When an invocation that pushed a node returns, the node receives exactly the triple
    (return data, error, leftover gas) that the caller receives. -/
theorem c08_outcome_as_handed_back (st : FState) (k : CallKind) (c t : Addr) (gs : Nat) (dbg top : Bool) (sg : Nat)
    (r : Option Bytes) (g : Nat) (e : Option String) (w en sn : List Effect) (ran : Bool) :
    (finish st k c t gs true dbg top sg r g e w en sn ran).tracer = st.tracer.exitCall g r e ∧
    (finish st k c t gs true dbg top sg r g e w en sn ran).results.getLast? =
      some { kind := k, caller := c, to := t, ret := r, gas := g, err := e, gasSupplied := gs, worldAtEntry := en,
             worldAtSnapshot := sn, worldAfter := w, ranCode := ran } := by
  constructor
  · rfl
  · simp [finish]

/-- the exit writes the triple on the node the cursor points at and on no other -/
theorem c08_exit_writes_current (t : CallTree) (c : Nat) (n : CallNode) (l : Nat) (r : Option Bytes) (e : Option String)
    (hc : t.current = some c) (hn : t.nodes[c]? = some n) :
    (t.exit l r e).nodes[c]? = some { n with remGas := l, ret := r, err := e } ∧
    ∀ j, j ≠ c → (t.exit l r e).nodes[j]? = t.nodes[j]? := by
  rw [exit_of_current hc hn]
  constructor
  · simp [hn, setResult]
  · intro j hj
    simp [Ne.symm hj]

/-- program order under the issuing frame: the parent of the node pushed for an attempt is the node of the innermost
    CALL / CREATE frame in progress (or none at top level) -/
theorem c08_parent_is_issuing_frame (evs : List FEvent) (caller : Addr) (to : Option Addr) (input : Bytes) (value gas : Nat) :
    (((run {} evs).tracer.tree.add caller to input value gas).nodes[(run {} evs).tracer.tree.count]?).map (·.parent) =
      some (cursorOf (run {} evs).stack none) := by
  have hwf := (run_tree none {} evs fullInv_init).1.1
  have hc := (run_tree none {} evs fullInv_init).1.2.1
  rw [(c08_attempt_recorded _ hwf caller to input value gas).1]
  simp [mkNode, hc]

end Artela
