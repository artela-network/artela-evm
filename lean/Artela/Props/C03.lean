import Artela.Proofs.JournalSafe
/-
  C03 — no bytecode, calldata or storage content can crash the VM.

  Part (i): the journal instructions.  `Res.panic` is the model's image of a Go panic: every partial Go
  operation the opcodes perform (slice expressions, `make`, `Memory.GetCopy`) is partial in the model, with the
  slice capacity an adversarial parameter, so "never panics" is a theorem about the guards.
  The other parts are in Props/C14, C15, C07Frame and InterpTables.
-/
namespace Artela

/-- (i) For every journal opcode, every operand tuple, every memory content (any length the gas schedule allows,
    any capacity ≥ length), every storage function and every keccak: the instruction returns a result or an
    error — never a panic. -/
theorem c03_journal_no_panic (op : JOp) (args : List Word) (env : JEnv) (tr : Tracer)
    (ha : args.length = op.arity) (hwf : env.WF) :
    ∃ w, (∃ tr', Journal.exec op args env tr = (.ok tr', w)) ∨ (∃ e, Journal.exec op args env tr = (.err e, w)) := by
  have h := journal_no_panic op args env tr ha hwf
  generalize Journal.exec op args env tr = r at h
  obtain ⟨r1, w⟩ := r
  cases r1 with
  | ok t => exact ⟨w, Or.inl ⟨t, rfl⟩⟩
  | err e => exact ⟨w, Or.inr ⟨e, rfl⟩⟩
  | panic p => cases h

/-- well-formedness is asked of the view of the machine's own world and memory only: a view that passes the frame's memory on is
    not well formed for every memory -/
theorem journal_step_no_panic {World : Type} (op : JOp) (mkEnv : World → Bytes → JEnv) (m : JMachine World)
    (hwf : (mkEnv m.world m.mem).WF) : (Journal.step op mkEnv m).isPanic = false := by
  unfold Journal.step
  split
  · rfl
  · rename_i hs
    split
    · rfl
    · have ha : (m.stack.take op.arity).length = op.arity := by rw [List.length_take]; omega
      have := journal_no_panic op (m.stack.take op.arity) (mkEnv m.world m.mem) m.tr ha hwf
      generalize (Journal.exec op (m.stack.take op.arity) (mkEnv m.world m.mem) m.tr).1 = r at this
      cases r with
      | ok t => rfl
      | err e => rfl
      | panic p => exact this

/-- the interpreter step on a journal opcode never panics either (stack and gas checks come first) -/
theorem c03_journal_step_no_panic {World : Type} (op : JOp) (mkEnv : World → Bytes → JEnv) (m : JMachine World)
    (hwf : ∀ w mem, (mkEnv w mem).WF) : (Journal.step op mkEnv m).isPanic = false :=
  journal_step_no_panic op mkEnv m (hwf _ _)

/-- non-vacuity: a well-formed environment exists (empty memory) -/
example : ({ contract := 1, mem := [], memCap := 0, storage := fun _ => 0, keccak := fun _ => 0 } : JEnv).WF :=
  ⟨Nat.le_refl _, by simp [maxAlloc], fun n => Nat.le_refl n⟩

/-- negation witness for the unrepaired `loadDataFromMem` (pointer used before the 64-bit check): a pointer of
    2^63 became a negative `int64` offset, for which `Memory.GetCopy` panics. -/
theorem c03_witness_negative_offset : (memGetCopy [0, 0] 2 (toInt64 (2 ^ 63)) 32).1.isPanic = true := by decide

end Artela
