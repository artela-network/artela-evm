import Artela.Props.C06
import Artela.Proofs.CallReaches
/-
  C06 (every event sequence) — no frame ever returns more gas than it was given, and the callee starts with exactly
  what the pre join point left.

  The environment is asked only what the property asks of it (`saneEv`): a join point, a precompile and the
  interpreter never hand back more gas than they received.
-/
namespace Artela
open Frame

/-- what is assumed of the environment at one event: nobody creates gas -/
def saneEv (st : FState) : FEvent → Prop
  | .enter _ _ _ _ _ gas f => f.pre.gas ≤ gas ∧ (∀ r g e, f.precompile = some (r, g, e) → g ≤ gas)
  | .halt _ _ gasLeft post =>
    match st.stack with
    | [] => True
    | fr :: _ => gasLeft ≤ fr.interpGas ∧ post.gas ≤ gasLeft
  | _ => True

def saneRun : FState → List FEvent → Prop
  | _, [] => True
  | st, ev :: rest => saneEv st ev ∧ saneRun (Frame.step st ev) rest

def GasInv (st : FState) : Prop :=
  (∀ fr ∈ st.stack, fr.interpGas ≤ fr.gasSupplied) ∧ (∀ r ∈ st.results, r.gas ≤ r.gasSupplied)

theorem tailGas_le (g : Nat) (e : Option String) : tailGas g e ≤ g := tailGas_le_self g e

theorem gasInv_finish (st : FState) (h : GasInv st) (k : CallKind) (c t : Addr) (gs : Nat) (tn dbg top : Bool) (sg : Nat)
    (r : Option Bytes) (g : Nat) (e : Option String) (w en sn : List Effect) (ran : Bool) (hg : g ≤ gs) :
    GasInv (finish st k c t gs tn dbg top sg r g e w en sn ran) :=
  ⟨h.1, List.forall_mem_append.2 ⟨h.2, List.forall_mem_singleton.2 hg⟩⟩

/-- **the callee starts with exactly what the pre join point left** (and with the supplied gas when no join point fires) -/
theorem c06_callee_start_gas (st : FState) (caller to : Addr) (value : Nat) (input : Bytes) (gas : Nat) (f : EnterFacts)
    (hr : reachesCode st.stack.length value f) :
    (f.jpEnabled = true → f.pre.err = none →
      (enterCall st caller to value input gas f).started = st.started ++ [(to, f.pre.gas)]) ∧
    (f.jpEnabled = false → (enterCall st caller to value input gas f).started = st.started ++ [(to, gas)]) := by
  rw [enterCall_eq, callEnding_of_reachesCode hr]
  constructor
  · intro hj he
    rw [if_pos hj, he]
    rfl
  · intro hj
    rw [hj]
    rfl

-- all arguments implicit, so that the state is read off the goal and not off `hi`
theorem gasInv_finish_of (hi : GasInv st) (hg : g ≤ gs) : GasInv (finish st k c t gs tn dbg top sg r g e w en sn ran) :=
  gasInv_finish st hi k c t gs tn dbg top sg r g e w en sn ran hg

theorem gasInv_ends (hi : GasInv st) (hg : V.gas ≤ g) : GasInv (ends st nd k c t v i g f p V) := by
  cases V with
  | refused => exact gasInv_finish_of hi hg
  | absent => exact gasInv_finish_of hi (Nat.le_refl _)
  | answered _ _ g' e => exact gasInv_finish_of hi (Nat.le_trans (tailGas_le g' e) hg)
  | runs => exact ⟨List.forall_mem_cons.2 ⟨hg, hi.1⟩, hi.2⟩

theorem gasInv_enterCall (st : FState) (h : GasInv st) (caller to : Addr) (value : Nat) (input : Bytes) (gas : Nat) (f : EnterFacts)
    (hs : saneEv st (.enter .call caller to value input gas f)) : GasInv (enterCall st caller to value input gas f) := by
  rw [enterCall_eq]; exact gasInv_ends h (callEnding_gas _ _ hs.1 hs.2)

theorem gasInv_enterOther (st : FState) (h : GasInv st) (kind : CallKind) (caller to : Addr) (value : Nat) (input : Bytes) (gas : Nat) (f : EnterFacts)
    (hs : saneEv st (.enter kind caller to value input gas f)) : GasInv (enterOther st kind caller to value input gas f) := by
  rw [enterOther_eq]; exact gasInv_ends h (otherEnding_gas _ _ hs.2)

theorem gasInv_enterCreate (st : FState) (h : GasInv st) (kind : CallKind) (caller to : Addr) (value : Nat) (input : Bytes) (gas : Nat) (f : EnterFacts) :
    GasInv (enterCreate st kind caller to value input gas f) := by
  rw [enterCreate_eq]; exact gasInv_ends h (createEnding_gas ..)

theorem gasInv_halts (h : Halts st fr rest ret err gasLeft post st') (hi : GasInv st) (hst : st.stack = fr :: rest)
    (hs : gasLeft ≤ fr.interpGas ∧ post.gas ≤ gasLeft) : GasInv st' := by
  rw [GasInv, hst, List.forall_mem_cons] at hi
  obtain ⟨⟨hfr, hrest⟩, hres⟩ := hi
  cases h with
  | tail jp _ _ ho =>
    refine gasInv_finish_of ⟨hrest, hres⟩ (Nat.le_trans (tailGas_le ..) (Nat.le_trans ?_ (Nat.le_trans hs.1 hfr)))
    subst ho
    cases jp
    · exact Nat.le_refl _
    · exact postJoinPoint_gas .. ▸ hs.2
  | create _ hg hg' => exact gasInv_finish_of ⟨hrest, hres⟩ (by omega)

theorem gasInv_halt (st : FState) (h : GasInv st) (fr : OpenFrame) (rest : List OpenFrame) (ret : Option Bytes) (err : Option String)
    (gasLeft : Nat) (post : JPResult) (hst : st.stack = fr :: rest) (hs : gasLeft ≤ fr.interpGas ∧ post.gas ≤ gasLeft) :
    GasInv (haltFrame st fr rest ret err gasLeft post) :=
  gasInv_halts (haltFrame_halts ..) h hst hs

theorem gasInv_step (st : FState) (h : GasInv st) (ev : FEvent) (hs : saneEv st ev) : GasInv (Frame.step st ev) := by
  generalize Frame.step st ev = st', step_shape st ev = hS
  cases hS with
  | enters _ _ hgas => exact gasInv_ends h (hgas hs.1 hs.2)
  | halts hst hH => exact gasInv_halts hH h hst (by simpa only [saneEv, hst] using hs)
  | _ => exact h

theorem gasInv_run (st : FState) (evs : List FEvent) (h : GasInv st) (hs : saneRun st evs) : GasInv (Frame.run st evs) := by
  induction evs generalizing st with
  | nil => exact h
  | cons e es ih => exact ih _ (gasInv_step st h e hs.1) hs.2

/-- **C06, every event sequence: no frame ever returns more gas than it was given** — provided no join point, precompile
    or interpreter run hands back more than it received -/
theorem c06_no_frame_creates_gas (evs : List FEvent) (hs : saneRun {} evs) :
    ∀ r ∈ (Frame.run {} evs).results, r.gas ≤ r.gasSupplied :=
  (gasInv_run {} evs ⟨by simp, by simp⟩ hs).2

/-- non-vacuity: a call whose pre join point burns 100, whose code burns 500 and whose post join point burns 50 -/
example :
    let evs : List FEvent := [ .enter .call 0xca 0xc0 0 [] 1000 { jpEnabled := true, pre := ⟨none, 900, none⟩ },
                               .halt none none 400 ⟨none, 350, none⟩ ]
    saneRun {} evs ∧ (Frame.run {} evs).results.map (fun r => (r.gasSupplied, r.gas)) = [(1000, 350)] := by
  refine ⟨?_, by decide +kernel⟩
  simp [saneRun, saneEv, Frame.step, enterCall]

end Artela
