import Artela.Proofs.FrameInv
/-
  C04 — a failed call frame leaves world state untouched, whatever made it fail.

  Over an ARBITRARY sequence of interpreter events: the `pre` / `post` join-point results are part of the events and
  universally quantified — that is the fault enumeration.  The world is the StateDB's journal of effects; `worldAtEntry`
  is the world when the frame function was invoked, `worldAfter` the world it left behind.
-/
namespace Artela
open Frame

/-- **Atomicity.** Whatever happens — exceptional halt, revert, failing pre- or post-contract-call join point,
    refusal up front — a call frame (CALL, CALLCODE, DELEGATECALL, STATICCALL) that ends in an error leaves the world
    exactly as it found it: its value transfer, account creation, its own effects and those of all its
    descendants are gone. -/
theorem c04_failed_frame_atomic (evs : List FEvent) (r : FrameResult) (hr : r ∈ (run {} evs).results)
    (hk : r.kind.isCreate = false) (he : r.err ≠ none) : r.worldAfter = r.worldAtEntry :=
  ((run_inv {} evs inv_init).2 r hr).1 hk he

/-- A failed CREATE / CREATE2 (other than the pre-Homestead code-store case) leaves the world as it was at its
    snapshot: the entry world plus the creator's nonce bump and the access-list addition that are made on purpose
    before the snapshot. -/
theorem c04_failed_create_atomic (evs : List FEvent) (r : FrameResult) (hr : r ∈ (run {} evs).results)
    (hk : r.kind.isCreate = true) (he : r.err ≠ none) (hc : r.err ≠ some errCodeStoreOOG) : r.worldAfter = r.worldAtSnapshot :=
  ((run_inv {} evs inv_init).2 r hr).2.2 hk he hc

/-- **Caller effects preserved.** Everything that was in the world before the frame is still there afterwards, in
    order, whether the frame failed or not (a successful frame only appends). -/
theorem c04_caller_effects_preserved (evs : List FEvent) (r : FrameResult) (hr : r ∈ (run {} evs).results)
    (hk : r.kind.isCreate = false) : ∃ l, r.worldAfter = r.worldAtEntry ++ l := by
  by_cases he : r.err = none
  · exact ((run_inv {} evs inv_init).2 r hr).2.1 hk he
  · exact ⟨[], by rw [c04_failed_frame_atomic evs r hr hk he]; simp⟩

/-- the snapshots of the frames still open always denote the world as it was when they were taken, so a later
    failure of any of them restores exactly that world — also across repeated top-level invocations -/
theorem c04_snapshots_stay_valid (evs : List FEvent) : WorldInv (run {} evs).stack (run {} evs).world :=
  (run_inv {} evs inv_init).1

/-- the world rule of the common tail: an error truncates the world to the snapshot, success keeps it -/
theorem c04_tail_rule (world : List Effect) (snap : Nat) (e : String) :
    tailWorld world snap (some e) = world.take snap ∧ tailWorld world snap none = world := ⟨rfl, rfl⟩

/-- non-vacuity: a caller stores, calls a contract whose pre join point fails after the value transfer, stores again -/

def c04_example : List FEvent :=
  [ .enter .call 0xca 0xc0 0 [] 1000000 {},
    .effect 1,
    .enter .call 0xc0 0xc1 5 [1, 2] 50000 { jpEnabled := true, pre := ⟨none, 40000, some "aspect refused"⟩, balFrom := 9, balTo := 0, balFromAfter := 4, balToAfter := 5 },
    .effect 2,
    .halt none none 900000 ⟨none, 0, none⟩ ]

/-- the inner frame's transfer is gone, the caller's two stores are there -/
example : (run {} c04_example).results.map (fun r => (r.err.isSome, r.worldAfter)) =
    [(true, [Effect.transfer 0xca 0xc0 0, Effect.prog 1]),
     (false, [Effect.transfer 0xca 0xc0 0, Effect.prog 1, Effect.prog 2])] := by decide +kernel

end Artela
