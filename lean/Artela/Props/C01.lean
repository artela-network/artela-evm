import Artela.Proofs.FrameShape
import Artela.Proofs.GenFacts
/-
  C01 / C02 — execution and gas match go-ethereum v1.12.0 for every standard program (the part carried by proof).

  The fork differs from upstream in an enumerable delta (`Spec/Delta.lean`, checked against the regenerated identity
  table by `delta_is_modelled`).  Everything else is the same source text (modulo the `ctx` parameter) and is tied by
  differential execution.  What is PROVED here is that the delta inside the frame functions is invisible for
  standard programs:

  * the frame functions never read the Artela tracer: two states that differ only in the tracer (and the join-point
    log) make the same steps on everything else — world, debug callbacks, results handed back, interpreter starts
    (`core_ends_tracer` is the general form, for all three prologues; `c01_tracer_invisible_halt` for the epilogues);
  * a join point with nothing bound (`djpm` returns `(nil, gas, nil)`) leaves gas, return data, error and world
    exactly as with join points switched off.
-/
namespace Artela
open Frame

/-- what go-ethereum v1.12.0 would also compute: everything except the Artela tracer and the join-point log -/
structure Core where
  world : List Effect
  events : List DebugEvent
  results : List (CallKind × Addr × Option Bytes × Nat × Option String × List Effect)
  started : List (Addr × Nat)
  depth : Nat

def core (st : FState) : Core :=
  { world := st.world, events := st.events,
    results := st.results.map (fun r => (r.kind, r.to, r.ret, r.gas, r.err, r.worldAfter)),
    started := st.started, depth := st.stack.length }

/-- a join point with nothing bound returns `(nil, gas, nil)`: the post join point then changes nothing -/
theorem c01_unbound_post_invisible (ret : Option Bytes) (err : Option String) (gasLeft : Nat) :
    postJoinPoint ret err ⟨none, gasLeft, none⟩ = (ret, err, gasLeft) := rfl

/-- stated with the fields of `st`, not with `core st`: two states that differ in the tracer are then compared field by
    field; unifying them as wholes walks into the call tree and is very slow to fail -/
theorem core_finish (st : FState) (k : CallKind) (c t : Addr) (gs : Nat) (tn dbg top : Bool) (sg : Nat)
    (r : Option Bytes) (g : Nat) (e : Option String) (w en sn : List Effect) (ran : Bool) :
    core (finish st k c t gs tn dbg top sg r g e w en sn ran) =
      { world := w, events := st.events ++ (if dbg then closeDebug true top r (subU64 sg g) e else []),
        results := st.results.map (fun r => (r.kind, r.to, r.ret, r.gas, r.err, r.worldAfter)) ++ [(k, t, r, g, e, w)],
        started := st.started, depth := st.stack.length } := by
  simp only [core, finish, List.map_append, List.map_cons, List.map_nil]

/-- …and so the result a contract call hands back, its gas included (C02), is the same with join points on and
    nothing bound as with join points off -/
theorem c01_unbound_joinpoints_same_result (st : FState) (fr : OpenFrame) (rest : List OpenFrame) (ret : Option Bytes)
    (err : Option String) (gasLeft : Nat) (hk : fr.kind = .call) :
    core (haltFrame st { fr with jpFired := true } rest ret err gasLeft ⟨none, gasLeft, none⟩) =
    core (haltFrame st { fr with jpFired := false } rest ret err gasLeft ⟨none, 0, none⟩) := by
  unfold haltFrame
  simp only [hk, if_true, Bool.false_eq_true, if_false, core_finish, c01_unbound_post_invisible]

/-- the pre join point with nothing bound hands the callee exactly the supplied gas -/
theorem c01_unbound_pre_same_start (st : FState) (caller to : Addr) (value : Nat) (input : Bytes) (gas : Nat) (f : EnterFacts) :
    core (enterCall st caller to value input gas { f with jpEnabled := true, pre := ⟨none, gas, none⟩ }) =
    core (enterCall st caller to value input gas { f with jpEnabled := false }) := by
  -- the two decisions agree up to the last leaf, where they are `runs true gas` and `runs false gas`
  rw [enterCall_eq, enterCall_eq]
  unfold callEnding
  dsimp -zeta only
  by_cases h1 : st.stack.length > 1024
  · rw [if_pos h1, if_pos h1]; rfl
  rw [if_neg h1, if_neg h1]
  by_cases h2 : value ≠ 0 ∧ ¬ f.canTransfer
  · rw [if_pos h2, if_pos h2]; rfl
  rw [if_neg h2, if_neg h2]
  by_cases h3 : ¬ f.exists_ ∧ f.precompile.isNone ∧ f.eip158 ∧ value = 0
  · rw [if_pos h3, if_pos h3]; rfl
  rw [if_neg h3, if_neg h3]
  cases f.precompile with
  | some x => rfl
  | none =>
    cases f.codeEmpty with
    | true => rfl
    | false => unfold core; rfl

theorem core_ends_tracer (st : FState) (t' : Tracer) (j' : List JPRecord) (nd : Option (Option Addr)) (k : CallKind) (c t : Addr)
    (v : Nat) (i : Bytes) (g : Nat) (f : EnterFacts) (p : Plumbing) (V : Ending) :
    core (ends { st with tracer := t', jps := j' } nd k c t v i g f p V) = core (ends st nd k c t v i g f p V) := by
  cases V with
  | runs => unfold core; rfl
  | refused => dsimp only [ends]; rw [core_finish, core_finish]; rfl
  | _ => dsimp only [ends]; rw [core_finish, core_finish]

/-- the frame functions never read the Artela tracer or the join-point log: replacing them changes nothing else -/
theorem c01_tracer_invisible_call (st : FState) (t' : Tracer) (j' : List JPRecord) (caller to : Addr) (value : Nat) (input : Bytes)
    (gas : Nat) (f : EnterFacts) :
    core (enterCall { st with tracer := t', jps := j' } caller to value input gas f) = core (enterCall st caller to value input gas f) := by
  rw [enterCall_eq, enterCall_eq]
  exact core_ends_tracer ..

theorem c01_tracer_invisible_halt (st : FState) (t' : Tracer) (j' : List JPRecord) (fr : OpenFrame) (rest : List OpenFrame)
    (ret : Option Bytes) (err : Option String) (gasLeft : Nat) (post : JPResult) :
    core (haltFrame { st with tracer := t', jps := j' } fr rest ret err gasLeft post) = core (haltFrame st fr rest ret err gasLeft post) := by
  unfold haltFrame
  extract_lets
  split
  · split <;> rw [core_finish, core_finish]
  all_goals rw [core_finish, core_finish]

/-- C01/C02, table part: on every fork up to Shanghai each instruction table equals upstream's outside the journal
    opcodes (same execute / dynamic-gas / memory-size functions by name, same constant gas, same stack bounds), and
    the precompile sets agree outside the three Artela addresses — regenerated from the running code. -/
theorem c01_tables_and_precompiles_agree :
    Gen.forkFrontier.filter notJournal = Gen.upFrontier ∧ Gen.forkHomestead.filter notJournal = Gen.upHomestead ∧
    Gen.forkTangerineWhistle.filter notJournal = Gen.upTangerineWhistle ∧ Gen.forkSpuriousDragon.filter notJournal = Gen.upSpuriousDragon ∧
    Gen.forkByzantium.filter notJournal = Gen.upByzantium ∧ Gen.forkConstantinople.filter notJournal = Gen.upConstantinople ∧
    Gen.forkPetersburg.filter notJournal = Gen.upPetersburg ∧ Gen.forkIstanbul.filter notJournal = Gen.upIstanbul ∧
    Gen.forkBerlin.filter notJournal = Gen.upBerlin ∧ Gen.forkLondon.filter notJournal = Gen.upLondon ∧
    Gen.forkMerge.filter notJournal = Gen.upMerge ∧ Gen.forkShanghai.filter notJournal = Gen.upShanghai ∧
    Gen.forkPrecompilesBerlin.filter (fun s => !isArtelaPrecompile s) = Gen.upPrecompilesBerlin :=
  ⟨tables_agree_Frontier, tables_agree_Homestead, tables_agree_TangerineWhistle, tables_agree_SpuriousDragon, tables_agree_Byzantium,
   tables_agree_Constantinople, tables_agree_Petersburg, tables_agree_Istanbul, tables_agree_Berlin, tables_agree_London, tables_agree_Merge,
   tables_agree_Shanghai, precompiles_berlin_delta.1⟩

/-- every declaration of vm, core/evm.go and tracers/** that is not identical to go-ethereum v1.12.0 is in the
    hand-modelled delta -/
theorem c01_delta_is_modelled : Gen.declDelta.all (fun r => expectedDelta.contains r) = true := delta_is_modelled

end Artela
