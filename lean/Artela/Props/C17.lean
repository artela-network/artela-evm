import Artela.Proofs.GenFacts
/-
  C17 — concurrent EVM instances do not interfere; cancellation is safe.  PARTIAL by nature: whether two goroutines race
  on a memory location is a fact about the Go runtime and memory model that no executable model exhibits.  What is logic,
  and is decided here:
   (1) which data is shared between instances and who may write it (regenerated from the source on every run): no function
       of package vm writes a package-level variable after init, the shared 256-bit constants are never receivers of
       mutating methods (also not through an alias), the only table mutation at run time (`EnableEIP` for extra EIPs)
       acts on a private deep copy, stacks are recycled through `sync.Pool` only after being truncated;
   (2) given (1), every interleaving of N instances gives each instance the result it has when run alone;
   (3) once `Cancel` has set the abort flag no jump is taken any more, so each open frame runs at most the rest of its
       straight-line code and then halts normally (bookkeeping closed by the ordinary halt path, C03/C07).  On the
       interpreter model this is `run_abort_halts` (Props/InterpAbort.lean) and `interp_cancel_stops`; the `CInstr`
       machine below is its abstraction.
  The runtime part (atomicity of `atomic.Bool`, `sync.Pool`, the race detector's view) is exercised by the harness
  (parallel workers, a cancelling goroutine; `-race` build in the thorough tier) as search support, not as proof.
-/
namespace Artela

/-- a system of instances with private states; `step i` changes only component `i` -/
def sysStep {L : Type} (f : Nat → L → L) (st : Nat → L) (i : Nat) : Nat → L :=
  fun j => if j = i then f i (st j) else st j

def sysRun {L : Type} (f : Nat → L → L) (st : Nat → L) (schedule : List Nat) : Nat → L :=
  schedule.foldl (sysStep f) st

/-- running instance `i` alone for `n` steps -/
def alone {L : Type} (f : Nat → L → L) (i : Nat) (x : L) : Nat → L
  | 0 => x
  | n + 1 => f i (alone f i x n)

theorem alone_shift {L : Type} (f : Nat → L → L) (i : Nat) (x : L) : ∀ n, alone f i (f i x) n = f i (alone f i x n)
  | 0 => rfl
  | n + 1 => by simp only [alone]; rw [alone_shift f i x n]

/-- **Projection.** For every number of instances, every schedule (any interleaving) and every instance `i`: the
    final state of `i` is exactly what `i` reaches when it runs alone for as many steps as it was scheduled. -/
theorem c17_projection {L : Type} (f : Nat → L → L) (schedule : List Nat) (i : Nat) :
    ∀ (st : Nat → L), sysRun f st schedule i = alone f i (st i) (schedule.count i) := by
  induction schedule with
  | nil => intro st; rfl
  | cons x xs ih =>
    intro st
    show sysRun f (sysStep f st x) xs i = _
    rw [ih]
    by_cases h : i = x
    · subst h
      simp only [sysStep, if_true, List.count_cons_self]
      rw [alone_shift]
      rfl
    · have hc : (x :: xs).count i = xs.count i := List.count_cons_of_ne (Ne.symm h)
      simp only [sysStep, h, if_false, hc]

/-- no function of package vm assigns a package-level variable, assigns one of its elements, calls a mutating
    method on one of the shared 256-bit constants (directly or through a local alias), takes their address, or calls a
    state-changing method (Store, Swap, Put, Get, Do, Lock, …) on a package-level variable — with the one exception of the
    stack pool, whose objects are emptied before they are put back (`returnStack` in `c17_sharing_facts`) -/
theorem c17_no_shared_writes : Gen.globalWrites =
    ["stack.go:newstack:mutating-method:stackPool.Get", "stack.go:returnStack:mutating-method:stackPool.Put"] := no_global_writes

/-- copy-on-write of instruction tables, `Cancel`, the stack pool and the abort checks are what the proofs assume; the only
    reference-typed field of the by-value configuration, `ExtraEips`, is read (len, range) and replaced by a slice declared in the
    function — the caller's backing array is never resliced, appended to or written -/
theorem c17_sharing_facts : Gen.sharingFacts = [
    "EVM.Cancel={evm.abort.Store(true)}",
    "EVM.Cancelled={returnevm.abort.Load()}",
    "NewEVMInterpreter:ExtraEips:len",
    "NewEVMInterpreter:ExtraEips:range",
    "NewEVMInterpreter:ExtraEips:replaced-by:extraEips:declared-as:varextraEips[]int",
    "NewEVMInterpreter:copy-before-enable=true",
    "copyJumpTable={dest:=*sourcefori,op:=rangesource{ifop!=nil{opCopy:=*opdest[i]=&opCopy}}return&dest}",
    "newstack={returnstackPool.Get().(*Stack)}",
    "opJump:checks-abort-first=true",
    "opJumpi:checks-abort-first=true",
    "returnStack={s.data=s.data[:0]stackPool.Put(s)}"] := rfl

/-- copy-on-write in the model: enabling an EIP on a copy of a table leaves the shared table as it was -/
theorem c17_copy_on_write (shared : List (Option Gen.OpRow)) (i : Nat) (r : Gen.OpRow) :
    let copy := shared.map id
    (copy.set i (some r), shared).2 = shared := rfl

inductive CInstr where
  | jump (target : Nat)     -- JUMP / JUMPI (taken)
  | other                   -- anything else (falls through)
  deriving DecidableEq

/-- one instruction of a frame once the abort flag is set: `opJump` / `opJumpi` return `errStopToken` (an ordinary
    halt), running off the end is STOP; everything else falls through.  `none` = halted -/
def cancelledStep (code : List CInstr) (pc : Nat) : Option Nat :=
  match code[pc]? with
  | none => none
  | some (.jump _) => none
  | some .other => some (pc + 1)

def cancelledRun (code : List CInstr) : Nat → Nat → Option Nat
  | 0, pc => some pc
  | n + 1, pc => match cancelledStep code pc with
    | none => none
    | some pc' => cancelledRun code n pc'

/-- **Stops promptly.** After `Cancel`, a frame at any `pc` halts within `|code| − pc + 1` further instructions:
    the program counter only moves forward because no jump is taken. -/
theorem c17_cancel_stops (code : List CInstr) : ∀ (k pc : Nat), code.length ≤ pc + k → cancelledRun code (k + 1) pc = none
  | 0, pc, h => by
    have : code[pc]? = none := List.getElem?_eq_none (by omega)
    simp [cancelledRun, cancelledStep, this]
  | k + 1, pc, h => by
    simp only [cancelledRun]
    unfold cancelledStep
    cases hc : code[pc]? with
    | none => rfl
    | some ins =>
      cases ins with
      | jump t => rfl
      | other => exact c17_cancel_stops code k (pc + 1) (by omega)

/-- no back edge: while it runs, the program counter strictly increases -/
theorem c17_cancel_no_back_edge (code : List CInstr) (pc pc' : Nat) (h : cancelledStep code pc = some pc') : pc' = pc + 1 := by
  unfold cancelledStep at h
  cases hc : code[pc]? with
  | none => simp [hc] at h
  | some ins => cases ins <;> simp [hc] at h; exact h.symm

/-- non-vacuity: three instances, an interleaved schedule -/
example : sysRun (fun i (x : Nat) => x + i + 1) (fun _ => 0) [0, 2, 1, 2, 0, 2] 2 = alone (fun i (x : Nat) => x + i + 1) 2 0 3 := by decide

end Artela
