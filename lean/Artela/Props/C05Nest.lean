import Artela.Proofs.FrameShape
import Artela.Proofs.FoldKit
/-
  C05 (nesting) — pre and post join points are bracketed last-in-first-out with the calls, for every event sequence.

  `jpStack st` lists, innermost first, the call-tree indices of the open contract-call frames whose pre join point ran
  (a post join point is owed for exactly these).  One step, whatever the event, does nothing to the log and `jpStack`,
  or appends one pre record and pushes its index (or not: the pre join point failed), or appends one post record whose
  index is the top of `jpStack` and pops it (`LifoStep`).  So every post closes the most recent still-open pre.
-/
namespace Artela
open Frame

def jpStack (st : FState) : List Nat :=
  (st.stack.filter (fun fr => fr.kind == .call && fr.jpFired)).map (·.nodeIndex)

def LifoStep (st st' : FState) : Prop :=
  (st'.jps = st.jps ∧ jpStack st' = jpStack st) ∨
  (∃ c t i v g idx, st'.jps = st.jps ++ [JPRecord.pre c t i v g idx] ∧ (jpStack st' = idx :: jpStack st ∨ jpStack st' = jpStack st)) ∨
  (∃ c t i v g idx r e, st'.jps = st.jps ++ [JPRecord.post c t i v g idx r e] ∧ jpStack st = idx :: jpStack st')

theorem jpStack_finish (st : FState) (k : CallKind) (c t : Addr) (gs : Nat) (tn dbg top : Bool) (sg : Nat)
    (r : Option Bytes) (g : Nat) (e : Option String) (w en sn : List Effect) (ran : Bool) :
    jpStack (finish st k c t gs tn dbg top sg r g e w en sn ran) = jpStack st := rfl

theorem jpStack_cons (st : FState) (fr : OpenFrame) (rest : List OpenFrame) (hs : st.stack = fr :: rest) :
    jpStack st = if fr.kind = .call ∧ fr.jpFired = true then fr.nodeIndex :: jpStack { st with stack := rest } else jpStack { st with stack := rest } := by
  simp only [jpStack, hs, List.filter_cons, Bool.and_eq_true, beq_iff_eq]
  split <;> rfl

theorem lifo_ends : LifoStep st (ends st nd k c t v i g f p V) := by
  cases V with
  | refused => exact .inl ⟨rfl, rfl⟩
  | absent => exact .inl ⟨rfl, rfl⟩
  | answered jp =>
    cases jp
    · exact .inl ⟨rfl, rfl⟩
    · exact .inr (.inl ⟨c, t, i, v, g, _, rfl, .inr rfl⟩)
  | runs jp =>
    cases jp
    · exact .inl ⟨rfl, (jpStack_cons _ _ _ rfl).trans (if_neg (fun h => nomatch h.2))⟩
    · refine .inr (.inl ⟨c, t, i, v, g, _, rfl, ?_⟩)
      -- only a `Call` frame owes a post join point
      by_cases hk : k = .call
      · exact .inl ((jpStack_cons _ _ _ rfl).trans (if_pos ⟨hk, rfl⟩))
      · exact .inr ((jpStack_cons _ _ _ rfl).trans (if_neg fun h => hk h.1))

theorem c05_lifo_enterCall (st : FState) (caller to : Addr) (value : Nat) (input : Bytes) (gas : Nat) (f : EnterFacts) :
    LifoStep st (enterCall st caller to value input gas f) := by
  rw [enterCall_eq]; exact lifo_ends

theorem c05_lifo_enterOther (st : FState) (kind : CallKind) (caller to : Addr) (value : Nat) (input : Bytes) (gas : Nat) (f : EnterFacts) :
    LifoStep st (enterOther st kind caller to value input gas f) := by
  rw [enterOther_eq]; exact lifo_ends

theorem c05_lifo_enterCreate (st : FState) (kind : CallKind) (caller to : Addr) (value : Nat) (input : Bytes) (gas : Nat) (f : EnterFacts) :
    LifoStep st (enterCreate st kind caller to value input gas f) := by
  rw [enterCreate_eq]; exact lifo_ends

theorem lifo_halts (h : Halts st fr rest ret err gasLeft post st') (hs : st.stack = fr :: rest) :
    LifoStep st st' := by
  have hst := jpStack_cons st fr rest hs
  cases h with
  | tail jp _ hjp =>
    cases jp
    · exact .inl ⟨rfl, (hst.trans (if_neg (fun h => nomatch hjp.2 h))).symm⟩
    · exact .inr (.inr ⟨_, _, _, _, _, _, _, _, rfl, hst.trans (if_pos (hjp.1 rfl))⟩)
  | create hk => exact .inl ⟨rfl, (hst.trans (if_neg (fun h => by rw [h.1] at hk; cases hk))).symm⟩

theorem c05_lifo_halt (st : FState) (fr : OpenFrame) (rest : List OpenFrame) (ret : Option Bytes) (err : Option String)
    (gasLeft : Nat) (post : JPResult) (hs : st.stack = fr :: rest) :
    LifoStep st (haltFrame st fr rest ret err gasLeft post) := lifo_halts (haltFrame_halts ..) hs

theorem c05_lifo_step (st : FState) (ev : FEvent) : LifoStep st (Frame.step st ev) := by
  generalize Frame.step st ev = st', step_shape st ev = hS
  cases hS with
  | enters => exact lifo_ends
  | halts hs hH => exact lifo_halts hH hs
  | _ => exact .inl ⟨rfl, rfl⟩

/-- replaying a join-point log against a stack of open pres: a pre pushes or (when it failed) does not; a post must
    match the top.  `Closes log s s'` = the log is well bracketed starting from open pres `s`, for SOME choice of which
    pres failed, and ends with open pres `s'` -/
inductive Closes : List JPRecord → List Nat → List Nat → Prop
  | nil (s) : Closes [] s s
  | preOpen (c t i v g idx rest s s') : Closes rest (idx :: s) s' → Closes (JPRecord.pre c t i v g idx :: rest) s s'
  | preFailed (c t i v g idx rest s s') : Closes rest s s' → Closes (JPRecord.pre c t i v g idx :: rest) s s'
  | post (c t i v g idx r e rest s s') : Closes rest s s' → Closes (JPRecord.post c t i v g idx r e :: rest) (idx :: s) s'

theorem closes_append (a b : List JPRecord) (s m s' : List Nat) (h1 : Closes a s m) (h2 : Closes b m s') : Closes (a ++ b) s s' := by
  induction h1 with
  | nil s => simpa using h2
  | preOpen c t i v g idx rest s m _ ih => exact Closes.preOpen _ _ _ _ _ _ _ _ _ (ih h2)
  | preFailed c t i v g idx rest s m _ ih => exact Closes.preFailed _ _ _ _ _ _ _ _ _ (ih h2)
  | post c t i v g idx r e rest s m _ ih => exact Closes.post _ _ _ _ _ _ _ _ _ _ _ (ih h2)

/-- **C05 nesting, every event sequence**: the join-point log of any execution is well bracketed — every post record
    closes the most recent pre record still open — and the pres still open are exactly those of the contract-call
    frames in progress, innermost first -/
theorem c05_log_well_bracketed (evs : List FEvent) : Closes (run {} evs).jps [] (jpStack (run {} evs)) := by
  refine foldl_inv (I := fun st => Closes st.jps [] (jpStack st)) (fun st e h => ?_) evs {} (Closes.nil _)
  rcases c05_lifo_step st e with ⟨hj, hs⟩ | ⟨c, t, i, v, g, idx, hj, hs | hs⟩ | ⟨c, t, i, v, g, idx, r, er, hj, hs⟩
  · rw [hj, hs]; exact h
  · rw [hj, hs]; exact closes_append _ _ _ _ _ h (.preOpen _ _ _ _ _ _ _ _ _ (.nil _))
  · rw [hj, hs]; exact closes_append _ _ _ _ _ h (.preFailed _ _ _ _ _ _ _ _ _ (.nil _))
  · rw [hj]; rw [hs] at h
    exact closes_append _ _ _ _ _ h (.post _ _ _ _ _ _ _ _ _ _ _ (.nil _))

/-- after every frame has returned nothing is owed: every pre that opened has been closed by its post -/
theorem c05_all_closed (evs : List FEvent) (h : (run {} evs).stack = []) : Closes (run {} evs).jps [] [] := by
  have := c05_log_well_bracketed evs
  simpa [jpStack, h] using this

end Artela
