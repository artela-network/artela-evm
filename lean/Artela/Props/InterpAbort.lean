import Artela.Proofs.InterpStep
/-  C17 at the loop level: under abort the pc strictly increases, and byte 0 (what `GetOp` reads past the code) is STOP (`StopAtEnd`). -/
namespace Artela
namespace Interp
variable {World : Type}

/-- with the abort flag set no instruction moves the program counter backwards or keeps it in place -/
theorem exec_abort_pc {env : IEnv World} (ha : env.abort = true) {i : Instr} {s s' : IState World}
    (h : exec env i s = .next s') : s.pc < s'.pc := (exec_next h).pc ha

theorem dynPart_pc {op : Nat} {row : Row} {s s1 : IState World} (h : dynPart op row s = .next s1) : s1.pc = s.pc :=
  (dynPart_frame h).2.1

theorem step_abort_pc {env : IEnv World} (ha : env.abort = true) {s s' : IState World}
    (h : step env s = .next s') : s.pc < s'.pc := by
  obtain ⟨row, i, s1, _, _, _, _, _, hs1, hex⟩ := step_next_inv h
  have h1 := dynPart_pc hs1
  have h2 := exec_abort_pc ha hex
  simp at h1; omega

/-- a table whose entry for byte 0 (what `GetOp` returns beyond the end of the code) is STOP or undefined -/
def StopAtEnd (env : IEnv World) : Prop :=
  ∀ row, env.table 0 = some row → decode row.exec 0 = some .stop ∨ decode row.exec 0 = none

theorem opAt_beyond {code : Bytes} {pc : Nat} (h : code.length ≤ pc) : opAt code pc = 0 := by
  simp [opAt, List.getD, List.getElem?_eq_none h]

theorem step_beyond_end {env : IEnv World} (hs : StopAtEnd env) {s : IState World} (h : env.code.length ≤ s.pc) :
    ∀ s', step env s ≠ .next s' := by
  intro s' hst
  obtain ⟨row, i, s1, hr, hd, _, _, _, _, hex⟩ := step_next_inv hst
  rw [opAt_beyond h] at hr hd
  rcases hs row hr with hd' | hd'
  · rw [hd'] at hd; cases hd
    cases hex
  · rw [hd'] at hd; cases hd

/-- C17 at the loop level: once `Cancel` has set the abort flag, the running frame stops within
    `|code| - pc + 1` further instructions, whatever the program, the stack, the memory and the gas -/
theorem run_abort_halts {env : IEnv World} (ha : env.abort = true) (hs : StopAtEnd env) (n : Nat) (s : IState World)
    (hn : env.code.length - s.pc < n) : ∀ s', run env n s ≠ .next s' := fun s' h => by
  have := run_measure (μ := fun t => env.code.length - t.pc) (fun t t' ht => by
    have := step_abort_pc ha ht
    have : ¬ env.code.length ≤ t.pc := fun hb => step_beyond_end hs hb t' ht
    omega) n s s' h
  omega

end Interp
end Artela
