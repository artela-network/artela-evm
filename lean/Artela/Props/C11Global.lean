import Artela.Props.C11
/-
  C11 (every conflict-free history) — the lookup by name / index path and the lookup by (slot, offset, type) reach the same
  record after ANY sequence of operations in which no two registrations conflict.

  `Agree` is the invariant: it holds initially and is kept by creating an account's root, by a refused registration, by a
  registration whose name, (slot, offset) and (account, slot, offset, type) are all new (under ANY registered parent), by
  an exact re-registration and by any change journal.  What breaks it is a conflicting registration (known finding D14,
  witnesses in C11.lean).  Preservation is argued on the one lookup step `child`, not on the shape of the state.
-/
namespace Artela
open StateChanges

/-- one iteration of the loop of `FindKeyIndices`: the child of node `c` registered under `name` -/
def child (s : StateChanges) (c : Nat) (name : Bytes) : Option Nat :=
  (s.keys[c]?).bind (fun (k : KeyNode) => alookup name k.childrenIndex)

def walk (s : StateChanges) (cur : Option Nat) (path : List Bytes) : Option Nat :=
  path.foldl (fun cur ix => cur.bind (fun c => child s c ix)) cur

theorem findKeyIndices_eq_walk (s : StateChanges) (a : Addr) (name : Bytes) (ixs : List Bytes) :
    s.findKeyIndices a name ixs = (alookup a s.roots).bind (fun r => walk s (some r) (name :: ixs)) := by
  unfold findKeyIndices walk child
  cases alookup a s.roots <;> rfl

theorem findKeyIndices_eq_some {s : StateChanges} {a : Addr} {name : Bytes} {ixs : List Bytes} {id : Nat} :
    s.findKeyIndices a name ixs = some id ↔ ∃ r, alookup a s.roots = some r ∧ walk s (some r) (name :: ixs) = some id := by
  rw [findKeyIndices_eq_walk]
  exact Option.bind_eq_some_iff

theorem walk_none (s : StateChanges) (path : List Bytes) : walk s none path = none := by
  induction path with
  | nil => rfl
  | cons x xs ih => simpa [walk] using ih

theorem walk_append (s : StateChanges) (cur : Option Nat) (p q : List Bytes) : walk s cur (p ++ q) = walk s (walk s cur p) q := by
  unfold walk; rw [List.foldl_append]

theorem walk_snoc (s : StateChanges) (cur : Option Nat) (p : List Bytes) (x : Bytes) :
    walk s cur (p ++ [x]) = (walk s cur p).bind (fun c => child s c x) := by
  rw [walk_append]; rfl

structure Agree (s : StateChanges) : Prop where
  /-- ids are valid -/
  rootValid : ∀ (a : Addr) (r : Nat), alookup a s.roots = some r → r < s.keys.length
  childValid : ∀ (p : Nat) (k : KeyNode) (n : Bytes) (c : Nat), s.keys[p]? = some k → alookup n k.childrenIndex = some c → c < s.keys.length
  /-- every index entry is a node with those coordinates, reachable by a non-empty name path from its account's root -/
  idx : ∀ (a : Addr) (sl : Word) (o : Nat) (ty : Word) (id : Nat), alookup (a, sl, o, ty) s.index = some id →
    (∃ k : KeyNode, s.keys[id]? = some k ∧ k.slot = some sl ∧ k.offset = o ∧ k.typeId = ty) ∧
    (∃ (r : Nat) (path : List Bytes), alookup a s.roots = some r ∧ path ≠ [] ∧ walk s (some r) path = some id)
  /-- every node reachable by a non-empty path is its account's index entry for its own coordinates -/
  path : ∀ (a : Addr) (r : Nat) (p : List Bytes) (id : Nat), alookup a s.roots = some r → p ≠ [] → walk s (some r) p = some id →
    ∃ (k : KeyNode) (sl : Word), s.keys[id]? = some k ∧ k.slot = some sl ∧ alookup (a, sl, k.offset, k.typeId) s.index = some id
  /-- no node belongs to two accounts -/
  owner : ∀ (a a' : Addr) (r r' : Nat) (p p' : List Bytes) (id : Nat), alookup a s.roots = some r → alookup a' s.roots = some r' →
    walk s (some r) p = some id → walk s (some r') p' = some id → a = a'

theorem agree_empty : Agree ({} : StateChanges) := by
  refine ⟨?_, ?_, ?_, ?_, ?_⟩ <;> intros <;> simp_all [alookup]

theorem walk_cons (s : StateChanges) (c : Nat) (x : Bytes) (xs : List Bytes) :
    walk s (some c) (x :: xs) = walk s (child s c x) xs := rfl

theorem child_of_key {s : StateChanges} {m : Nat} {k : KeyNode} (h : s.keys[m]? = some k) (x : Bytes) :
    child s m x = alookup x k.childrenIndex := by
  unfold child; rw [h]; rfl

theorem child_eq_some {s : StateChanges} {m c : Nat} {x : Bytes} :
    child s m x = some c ↔ ∃ k, s.keys[m]? = some k ∧ alookup x k.childrenIndex = some c :=
  Option.bind_eq_some_iff

theorem child_ge {s : StateChanges} {m : Nat} (h : s.keys.length ≤ m) (x : Bytes) : child s m x = none := by
  unfold child; rw [List.getElem?_eq_none h]; rfl

theorem Agree.child_lt {s : StateChanges} (hs : Agree s) {m c : Nat} {x : Bytes} (h : child s m x = some c) :
    c < s.keys.length :=
  let ⟨k, hk, hc⟩ := child_eq_some.mp h
  hs.childValid m k x c hk hc

theorem walk_cons_eq_some {s : StateChanges} {c id : Nat} {x : Bytes} {xs : List Bytes} :
    walk s (some c) (x :: xs) = some id ↔ ∃ c', child s c x = some c' ∧ walk s (some c') xs = some id := by
  rw [walk_cons]
  cases child s c x with
  | none => simp [walk_none]
  | some c' => simp

theorem walk_mono {s s' : StateChanges} (h : ∀ m x c, child s m x = some c → child s' m x = some c) :
    ∀ (p : List Bytes) {r id : Nat}, walk s (some r) p = some id → walk s' (some r) p = some id
  | [], _, _, hw => hw
  | _ :: xs, _, _, hw =>
    let ⟨c, hc, hw⟩ := walk_cons_eq_some.mp hw
    walk_cons_eq_some.mpr ⟨c, h _ _ _ hc, walk_mono h xs hw⟩

theorem walk_of_child_eq {s s' : StateChanges} (h : ∀ m x, child s' m x = child s m x) (cur : Option Nat) (p : List Bytes) :
    walk s' cur p = walk s cur p := by
  unfold walk
  rw [show child s' = child s from funext fun m => funext (h m)]

theorem walk_childless {s : StateChanges} {c : Nat} (h : ∀ x, child s c x = none) {p : List Bytes} {id : Nat}
    (hw : walk s (some c) p = some id) : p = [] ∧ id = c := by
  cases p with
  | nil => exact ⟨rfl, (Option.some.inj hw).symm⟩
  | cons x xs => rw [walk_cons, h, walk_none] at hw; cases hw

/-- reachable ids are valid -/
theorem walk_valid (s : StateChanges) (h : Agree s) :
    ∀ (p : List Bytes) (r id : Nat), r < s.keys.length → walk s (some r) p = some id → id < s.keys.length
  | [], _, _, hr, hw => Option.some.inj hw ▸ hr
  | _ :: xs, _, id, _, hw =>
    let ⟨c, hc, hw⟩ := walk_cons_eq_some.mp hw
    walk_valid s h xs c id (h.child_lt hc) hw

theorem Agree.walk_eq {s s' : StateChanges} (hs : Agree s) (heq : ∀ m x, m < s.keys.length → child s' m x = child s m x) :
    ∀ (p : List Bytes) (r : Nat), r < s.keys.length → walk s' (some r) p = walk s (some r) p
  | [], _, _ => rfl
  | x :: xs, r, hr => by
    rw [walk_cons, walk_cons, heq r x hr]
    cases hc : child s r x with
    | none => rw [walk_none, walk_none]
    | some c => exact hs.walk_eq heq xs c (hs.child_lt hc)

theorem Agree.findKeyIndices_lt {s : StateChanges} (hs : Agree s) {a : Addr} {name : Bytes} {ixs : List Bytes} {id : Nat}
    (h : s.findKeyIndices a name ixs = some id) : id < s.keys.length := by
  obtain ⟨r, hr, hw⟩ := findKeyIndices_eq_some.mp h
  exact walk_valid s hs _ r id (hs.rootValid a r hr) hw

theorem child_append_left {s s' : StateChanges} {t : List KeyNode} (hk : s'.keys = s.keys ++ t) {m : Nat}
    (hm : m < s.keys.length) (x : Bytes) : child s' m x = child s m x := by
  unfold child; rw [hk, List.getElem?_append_left hm]

theorem child_concat {s s' : StateChanges} {j : KeyNode} (hk : s'.keys = s.keys ++ [j]) (hj : j.childrenIndex = [])
    (m : Nat) (x : Bytes) : child s' m x = child s m x := by
  by_cases hm : m < s.keys.length
  · exact child_append_left hk hm x
  · rw [child_ge (Nat.le_of_not_lt hm)]
    cases h : child s' m x with
    | none => rfl
    | some c =>
      obtain ⟨k, hk', hc⟩ := child_eq_some.mp h
      rw [hk] at hk'
      rcases getElem_opt_concat_some.mp hk' with h1 | ⟨_, rfl⟩
      · exact absurd (List.getElem?_eq_some_iff.mp h1).1 hm
      · rw [hj] at hc; cases hc

/-- One proof for `modify`, `withJunk` and `withRoot`.  `hchild` is asked of ALL nodes, so new nodes have no steps and a
    new root reaches only itself; new roots belong to one account `a0`, which is all `owner` needs.  `a0`: the account of
    the new root; any value when no root is added. -/
theorem Agree.extend {s s' : StateChanges} (hs : Agree s) (a0 : Addr) (hlen : s.keys.length ≤ s'.keys.length)
    (hkey : ∀ (j : Nat) (k : KeyNode), s.keys[j]? = some k →
      ∃ k' : KeyNode, s'.keys[j]? = some k' ∧ k'.slot = k.slot ∧ k'.offset = k.offset ∧ k'.typeId = k.typeId)
    (hchild : ∀ m x, child s' m x = child s m x) (hindex : s'.index = s.index)
    (hold : ∀ a r, alookup a s.roots = some r → alookup a s'.roots = some r)
    (hroots : ∀ a r, alookup a s'.roots = some r →
      alookup a s.roots = some r ∨ (a = a0 ∧ s.keys.length ≤ r ∧ r < s'.keys.length)) : Agree s' := by
  have hw : ∀ p r, walk s' (some r) p = walk s (some r) p := fun p r => walk_of_child_eq hchild (some r) p
  have hnew : ∀ {r p id}, s.keys.length ≤ r → walk s (some r) p = some id → p = [] ∧ id = r := fun hr =>
    walk_childless (child_ge hr)
  refine ⟨?_, ?_, ?_, ?_, ?_⟩
  · intro a r hr
    rcases hroots a r hr with h | ⟨_, _, h⟩
    · exact Nat.lt_of_lt_of_le (hs.rootValid a r h) hlen
    · exact h
  · intro p k n c hk hc
    exact Nat.lt_of_lt_of_le (hs.child_lt ((hchild p n).symm.trans ((child_of_key hk n).trans hc))) hlen
  · intro a sl o ty id hl
    rw [hindex] at hl
    obtain ⟨⟨k, hk, h1, h2, h3⟩, r, pth, hr, hne, hwk⟩ := hs.idx a sl o ty id hl
    obtain ⟨k', hk', e1, e2, e3⟩ := hkey id k hk
    exact ⟨⟨k', hk', e1.trans h1, e2.trans h2, e3.trans h3⟩, r, pth, hold a r hr, hne, (hw pth r).trans hwk⟩
  · intro a r p id hr hne hwk
    rw [hw] at hwk
    rcases hroots a r hr with h | ⟨_, hge, _⟩
    · obtain ⟨k, sl, hk, hsl, hlk⟩ := hs.path a r p id h hne hwk
      obtain ⟨k', hk', e1, e2, e3⟩ := hkey id k hk
      exact ⟨k', sl, hk', e1.trans hsl, by rw [hindex, e2, e3]; exact hlk⟩
    · exact absurd (hnew hge hwk).1 hne
  · intro a1 a2 r1 r2 p1 p2 id h1 h2 w1 w2
    rw [hw] at w1 w2
    rcases hroots a1 r1 h1 with o1 | ⟨e1, g1, _⟩ <;> rcases hroots a2 r2 h2 with o2 | ⟨e2, g2, _⟩
    · exact hs.owner a1 a2 r1 r2 p1 p2 id o1 o2 w1 w2
    · have := walk_valid s hs p1 r1 id (hs.rootValid a1 r1 o1) w1
      have := (hnew g2 w2).2
      omega
    · have := walk_valid s hs p2 r2 id (hs.rootValid a2 r2 o2) w2
      have := (hnew g1 w1).2
      omega
    · rw [e1, e2]

/-- the state a non-conflicting registration under parent node `pid` (whose content is `pk`) produces -/
def regUnder (s : StateChanges) (a : Addr) (pid : Nat) (pk : KeyNode) (self : Word) (o : Nat) (ty : Word) (name : Bytes) : StateChanges :=
  { s with
    keys := (s.keys ++ [({ slot := some self, offset := o, data := name, typeId := ty, nodeType := .branch } : KeyNode)]).modify pid
              (fun k => { k with childrenIndex := pk.childrenIndex ++ [(name, s.keys.length)], children := k.children ++ [((self, o), s.keys.length)] })
    index := s.index ++ [((a, self, o, ty), s.keys.length)] }

section RegUnder
variable (s : StateChanges) (a : Addr) (pid : Nat) (pk : KeyNode) (self : Word) (o : Nat) (ty : Word) (name : Bytes)
variable (hpk : s.keys[pid]? = some pk)

theorem reg_len : (regUnder s a pid pk self o ty name).keys.length = s.keys.length + 1 := by
  simp [regUnder]

include hpk in
theorem reg_pid_lt : pid < s.keys.length := (List.getElem?_eq_some_iff.mp hpk).1

include hpk in
theorem reg_key_old (id : Nat) (k : KeyNode) (hk : s.keys[id]? = some k) :
    ∃ k', (regUnder s a pid pk self o ty name).keys[id]? = some k' ∧ k'.slot = k.slot ∧ k'.offset = k.offset ∧ k'.typeId = k.typeId ∧
      k'.childrenIndex = (if pid = id then pk.childrenIndex ++ [(name, s.keys.length)] else k.childrenIndex) := by
  have hlt : id < s.keys.length := (List.getElem?_eq_some_iff.mp hk).1
  simp only [regUnder, List.getElem?_modify, List.getElem?_append_left hlt, hk]
  by_cases h : pid = id
  · simp [h]
  · simp [h]

theorem reg_key_new : (regUnder s a pid pk self o ty name).keys[s.keys.length]? =
    (if pid = s.keys.length then none else some ({ slot := some self, offset := o, data := name, typeId := ty, nodeType := .branch } : KeyNode)) ∨
    pid = s.keys.length := by
  by_cases h : pid = s.keys.length
  · exact Or.inr h
  · left; simp [regUnder, h]

include hpk in
theorem reg_key_cid : (regUnder s a pid pk self o ty name).keys[s.keys.length]? =
    some ({ slot := some self, offset := o, data := name, typeId := ty, nodeType := .branch } : KeyNode) := by
  have h : ¬ pid = s.keys.length := by have := reg_pid_lt s pid pk hpk; omega
  simp [regUnder, h]

include hpk in
theorem reg_child_old (m : Nat) (x : Bytes) (hm : m < s.keys.length) :
    child (regUnder s a pid pk self o ty name) m x =
      if pid = m then alookup x (pk.childrenIndex ++ [(name, s.keys.length)]) else child s m x := by
  obtain ⟨k, hk⟩ : ∃ k, s.keys[m]? = some k := ⟨_, List.getElem?_eq_getElem hm⟩
  obtain ⟨k', hk', _, _, _, hci⟩ := reg_key_old s a pid pk self o ty name hpk m k hk
  rw [child_of_key hk', hci, child_of_key hk]
  split <;> rfl

include hpk in
theorem reg_child_cid (x : Bytes) : child (regUnder s a pid pk self o ty name) s.keys.length x = none :=
  child_of_key (reg_key_cid s a pid pk self o ty name hpk) x

include hpk in
variable {s a pid pk self o ty name} in
theorem reg_child_inv {m c : Nat} {x : Bytes} (h : child (regUnder s a pid pk self o ty name) m x = some c) :
    child s m x = some c ∨ (m = pid ∧ x = name ∧ c = s.keys.length) := by
  have hm : m < s.keys.length + 1 := by
    obtain ⟨k, hk, _⟩ := child_eq_some.mp h
    exact reg_len s a pid pk self o ty name ▸ (List.getElem?_eq_some_iff.mp hk).1
  by_cases hlt : m < s.keys.length
  · rw [reg_child_old s a pid pk self o ty name hpk m x hlt] at h
    split at h
    · next hp =>
      subst hp
      rw [child_of_key hpk]
      rcases alookup_append_single_some.mp h with h | ⟨_, hx, hc⟩
      · exact Or.inl h
      · exact Or.inr ⟨rfl, hx, hc⟩
    · exact Or.inl h
  · rw [show m = s.keys.length by omega, reg_child_cid s a pid pk self o ty name hpk] at h
    cases h

include hpk in
variable {s a pid pk self o ty name} in
theorem reg_child_new (hname : alookup name pk.childrenIndex = none) :
    child (regUnder s a pid pk self o ty name) pid name = some s.keys.length := by
  rw [reg_child_old s a pid pk self o ty name hpk pid name (reg_pid_lt s pid pk hpk), if_pos rfl]
  exact alookup_append_new _ _ _ hname

include hpk in
theorem reg_child_mono (m : Nat) (x : Bytes) (c : Nat) (h : child s m x = some c) :
    child (regUnder s a pid pk self o ty name) m x = some c := by
  obtain ⟨k, hk, _⟩ := child_eq_some.mp h
  rw [reg_child_old s a pid pk self o ty name hpk m x (List.getElem?_eq_some_iff.mp hk).1]
  split
  · next hp =>
    subst hp
    rw [child_of_key hpk] at h
    exact alookup_append_old _ _ _ _ _ h
  · exact h

include hpk in
theorem reg_walk_mono : ∀ (p : List Bytes) (r id : Nat), walk s (some r) p = some id →
    walk (regUnder s a pid pk self o ty name) (some r) p = some id :=
  fun p _ _ => walk_mono (reg_child_mono s a pid pk self o ty name hpk) p

include hpk in
/-- a name path in the new state either existed before or enters the new node through the new edge `pid —name→ cid` -/
theorem reg_walk_inv (hs : Agree s) : ∀ (p : List Bytes) (r id : Nat), r < s.keys.length →
    walk (regUnder s a pid pk self o ty name) (some r) p = some id →
    walk s (some r) p = some id ∨ (id = s.keys.length ∧ ∃ p0, p = p0 ++ [name] ∧ walk s (some r) p0 = some pid)
  | [], _, _, _, h => Or.inl h
  | x :: xs, r, id, hr, h => by
    obtain ⟨c, hc, hw⟩ := walk_cons_eq_some.mp h
    rcases reg_child_inv hpk hc with hc | ⟨rfl, rfl, rfl⟩
    · rcases reg_walk_inv hs xs c id (hs.child_lt hc) hw with h1 | ⟨h1, p0, hp0, hw0⟩
      · exact Or.inl (walk_cons_eq_some.mpr ⟨c, hc, h1⟩)
      · exact Or.inr ⟨h1, x :: p0, congrArg _ hp0, walk_cons_eq_some.mpr ⟨c, hc, hw0⟩⟩
    · -- the new node has no way out: the path ends here
      obtain ⟨rfl, rfl⟩ := walk_childless (reg_child_cid s a r pk self o ty x hpk) hw
      exact Or.inr ⟨rfl, [], rfl, rfl⟩

include hpk in
/-- **a non-conflicting registration preserves agreement** -/
theorem agree_regUnder (hs : Agree s) (hname : alookup name pk.childrenIndex = none) (hidx : alookup (a, self, o, ty) s.index = none)
    (hreach : ∃ r p, alookup a s.roots = some r ∧ walk s (some r) p = some pid) :
    Agree (regUnder s a pid pk self o ty name) := by
  obtain ⟨ra, pa, hra, hwa⟩ := hreach
  have hlen := reg_len s a pid pk self o ty name
  have hmono := reg_walk_mono s a pid pk self o ty name hpk
  have hinv := reg_walk_inv s a pid pk self o ty name hpk hs
  have hcid := reg_key_cid s a pid pk self o ty name hpk
  have hkey := reg_key_old s a pid pk self o ty name hpk
  refine ⟨?_, ?_, ?_, ?_, ?_⟩
  · intro a' r hr
    exact hlen ▸ Nat.lt_succ_of_lt (hs.rootValid a' r hr)
  · intro p k n c hk hc
    rw [hlen]
    rcases reg_child_inv hpk ((child_of_key hk n).trans hc) with h | ⟨_, _, rfl⟩
    · exact Nat.lt_succ_of_lt (hs.child_lt h)
    · exact Nat.lt_succ_self _
  · intro a' sl o' ty' id hl
    rcases alookup_append_single_some.mp hl with hold | ⟨_, hk, rfl⟩
    · obtain ⟨⟨k, hk, h1, h2, h3⟩, r, pth, hr, hne, hw⟩ := hs.idx a' sl o' ty' id hold
      obtain ⟨k', hk', e1, e2, e3, _⟩ := hkey id k hk
      exact ⟨⟨k', hk', e1.trans h1, e2.trans h2, e3.trans h3⟩, r, pth, hr, hne, hmono pth r id hw⟩
    · -- the new entry: reached by the parent's path extended by `name`
      cases hk
      refine ⟨⟨_, hcid, rfl, rfl, rfl⟩, ra, pa ++ [name], hra, by simp, ?_⟩
      rw [walk_snoc, hmono pa ra pid hwa]
      exact reg_child_new hpk hname
  · intro a' r p id hr hne hw
    rcases hinv p r id (hs.rootValid a' r hr) hw with hold | ⟨rfl, p0, _, hw0⟩
    · obtain ⟨k, sl, hk, hsl, hlk⟩ := hs.path a' r p id hr hne hold
      obtain ⟨k', hk', e1, e2, e3, _⟩ := hkey id k hk
      exact ⟨k', sl, hk', e1.trans hsl, by rw [e2, e3]; exact alookup_append_old _ _ _ _ _ hlk⟩
    · -- the new node: its parent is reached from `a'`, so `a' = a`, whose index had no such entry
      cases hs.owner a' a r ra p0 pa pid hr hra hw0 hwa
      exact ⟨_, self, hcid, rfl, alookup_append_new _ _ _ hidx⟩
  · intro a1 a2 r1 r2 p1 p2 id h1 h2 hw1 hw2
    have hv1 := hs.rootValid a1 r1 h1
    have hv2 := hs.rootValid a2 r2 h2
    rcases hinv p1 r1 id hv1 hw1 with o1 | ⟨i1, q1, _, w1⟩ <;> rcases hinv p2 r2 id hv2 hw2 with o2 | ⟨i2, q2, _, w2⟩
    · exact hs.owner a1 a2 r1 r2 p1 p2 id h1 h2 o1 o2
    · have := walk_valid s hs p1 r1 id hv1 o1; omega
    · have := walk_valid s hs p2 r2 id hv2 o2; omega
    · exact hs.owner a1 a2 r1 r2 q1 q2 pid h1 h2 w1 w2

end RegUnder

theorem journal_fields (k : KeyNode) (i : Nat) (v : Bytes) :
    (k.journal i v).slot = k.slot ∧ (k.journal i v).offset = k.offset ∧ (k.journal i v).typeId = k.typeId ∧
    (k.journal i v).childrenIndex = k.childrenIndex :=
  let ⟨h1, h2, h3, h4, _⟩ := journal_keeps k i v
  ⟨h1, h2, h3, h4⟩

theorem modify_child (s : StateChanges) (id : Nat) (g : KeyNode → KeyNode) (hg : ∀ k, (g k).childrenIndex = k.childrenIndex) (m : Nat) (x : Bytes) :
    child { s with keys := s.keys.modify id g } m x = child s m x := by
  unfold child
  rw [List.getElem?_modify]
  cases s.keys[m]? with
  | none => rfl
  | some k => show alookup x (if id = m then g k else k).childrenIndex = _; split <;> simp [hg]

theorem modify_walk (s : StateChanges) (id : Nat) (g : KeyNode → KeyNode) (hg : ∀ k, (g k).childrenIndex = k.childrenIndex) :
    ∀ (p : List Bytes) (cur : Option Nat), walk { s with keys := s.keys.modify id g } cur p = walk s cur p :=
  fun p cur => walk_of_child_eq (modify_child s id g hg) cur p

theorem agree_modify (s : StateChanges) (hs : Agree s) (id : Nat) (g : KeyNode → KeyNode)
    (hg : ∀ k, (g k).slot = k.slot ∧ (g k).offset = k.offset ∧ (g k).typeId = k.typeId ∧ (g k).childrenIndex = k.childrenIndex) :
    Agree { s with keys := s.keys.modify id g } :=
  hs.extend 0 (hlen := by simp) (hindex := rfl) (hold := fun _ _ h => h) (hroots := fun _ _ h => Or.inl h)
    (hkey := fun j k hk => ⟨_, modify_get _ id j g k hk, by split <;> simp [hg]⟩)
    (hchild := modify_child s id g fun k => (hg k).2.2.2)

/-- any change journal — accepted or refused — preserves agreement -/
theorem agree_saveChange (s : StateChanges) (hs : Agree s) (a : Addr) (self : Word) (off : Option Word) (ty : Word) (i : Nat) (v : Bytes) :
    Agree (s.saveChange a self off ty i v).1 := by
  rcases saveChange_cases s a self off ty i v with ⟨e, h⟩ | ⟨o, id, _, _, h⟩
  · rw [h]; exact hs
  · rw [h]; exact agree_modify s hs _ _ (fun k => journal_fields k i v)

theorem wr_child_old (s : StateChanges) (a : Addr) (m : Nat) (x : Bytes) (hm : m < s.keys.length) :
    child (withRoot s a) m x = child s m x :=
  child_append_left rfl hm x

theorem wr_child_new (s : StateChanges) (a : Addr) (x : Bytes) : child (withRoot s a) s.keys.length x = none :=
  (child_concat rfl rfl _ x).trans (child_ge (Nat.le_refl _) x)

theorem wr_walk_old (s : StateChanges) (hs : Agree s) (a : Addr) :
    ∀ (p : List Bytes) (r : Nat), r < s.keys.length → walk (withRoot s a) (some r) p = walk s (some r) p :=
  hs.walk_eq (wr_child_old s a)

theorem wr_walk_new (s : StateChanges) (a : Addr) (p : List Bytes) (id : Nat) (h : walk (withRoot s a) (some s.keys.length) p = some id) :
    p = [] ∧ id = s.keys.length :=
  walk_childless (wr_child_new s a) h

theorem agree_withRoot (s : StateChanges) (hs : Agree s) (a : Addr) (hnew : alookup a s.roots = none) : Agree (withRoot s a) :=
  hs.extend a (hlen := by simp [withRoot]) (hindex := rfl)
    (hkey := fun j k hk => ⟨k, getElem_opt_concat_some.mpr (Or.inl hk), rfl, rfl, rfl⟩)
    (hchild := child_concat rfl rfl)
    (hold := fun _ _ h => alookup_append_old _ _ _ _ _ h)
    (hroots := by
      intro a' r h
      rcases alookup_append_single_some.mp h with h | ⟨_, ha, hr⟩
      · exact Or.inl h
      · exact Or.inr ⟨ha, Nat.le_of_eq hr.symm, by simp [withRoot, hr]⟩)

theorem agree_ensureRoot (s : StateChanges) (hs : Agree s) (a : Addr) :
    Agree (s.ensureRoot a).1 ∧ alookup a (s.ensureRoot a).1.roots = some (s.ensureRoot a).2 := by
  rcases ensureRoot_cases s a with ⟨r, hr, he⟩ | ⟨hn, he⟩
  · rw [he]; exact ⟨hs, hr⟩
  · rw [he]
    refine ⟨agree_withRoot s hs a hn, ?_⟩
    exact alookup_append_new _ _ _ hn

/-- the registration's name, its (slot, offset) under the parent and its (account, slot, offset, type) are all new -/
def FreshUnder (s1 : StateChanges) (a : Addr) (pid : Nat) (pk : KeyNode) (self : Word) (o : Nat) (ty : Word) (name : Bytes) : Prop :=
  s1.keys[pid]? = some pk ∧ alookup name pk.childrenIndex = none ∧ alookup (self, o) pk.children = none ∧
  alookup (a, self, o, ty) s1.index = none

-- the let-block is `regTail s1 a pid self o ty name` (Proofs/KeyTreeKit.lean) unfolded
theorem saveKey_under (s1 : StateChanges) (a : Addr) (pid : Nat) (pk : KeyNode) (self : Word) (o : Nat) (ty : Word) (name : Bytes)
    (hf : FreshUnder s1 a pid pk self o ty name) :
    (let cid := s1.keys.length
     let child : KeyNode := { slot := some self, offset := o, data := name, typeId := ty, nodeType := .branch }
     let r := addChild (s1.keys ++ [child]) pid cid self o name
     let s2 : StateChanges := { s1 with keys := r.1 }
     match r.1[r.2]? with
     | none => (s2, (none : Option String))
     | some rk => (s2.addKey a (rk.slot.getD 0) rk.offset rk.typeId r.2, none)) = (regUnder s1 a pid pk self o ty name, none) := by
  obtain ⟨hpk, hname, hso, hidx⟩ := hf
  simp only [addChild, getElem_opt_concat_some.mpr (Or.inl hpk), hname, hso]
  split
  · next h => cases (reg_key_cid s1 a pid pk self o ty name hpk).symm.trans h
  · next rk h =>
    cases (reg_key_cid s1 a pid pk self o ty name hpk).symm.trans h
    simp only [addKey, Option.getD_some, hidx]
    rfl

theorem saveKey_nested_fresh (s : StateChanges) (a : Addr) (p self : Word) (off : Option Word) (o : Nat) (ty pty : Word) (name : Bytes)
    (pid : Nat) (pk : KeyNode) (hco : checkOffset off = some o) (hp : s.findKey a p 0 pty = some pid)
    (hf : FreshUnder s a pid pk self o ty name) :
    s.saveKey a (some p) self off ty pty name = (regUnder s a pid pk self o ty name, none) := by
  rw [saveKey_eq]
  simp only [hco, hp]
  exact saveKey_under s a pid pk self o ty name hf

/-- Registering a child under an existing parent node `pid` whose name, whose (slot, offset) and whose
    (account, slot, offset, type) are all new: the fresh arena node `cid` is what the parent's name map returns AND
    what the flat index returns. -/
theorem c11_fresh_registration_reachable_both (s : StateChanges) (a : Addr) (p self : Word) (o : Nat) (ho : o ≤ 31)
    (ty pty : Word) (name : Bytes) (pid : Nat) (pk : KeyNode)
    (hp : s.findKey a p 0 pty = some pid) (hpk : s.keys[pid]? = some pk)
    (hname : alookup name pk.childrenIndex = none) (hso : alookup (self, o) pk.children = none)
    (hidx : alookup (a, self, o, ty) s.index = none) :
    let s' := (s.saveKey a (some p) self (some o) ty pty name).1
    let cid := s.keys.length
    (s.saveKey a (some p) self (some o) ty pty name).2 = none ∧
    s'.findKey a self o ty = some cid ∧
    (s'.keys[pid]?.bind (fun k => alookup name k.childrenIndex)) = some cid ∧
    s'.keys[cid]? = some { slot := some self, offset := o, data := name, typeId := ty, nodeType := .branch } := by
  rw [saveKey_nested_fresh s a p self (some o) o ty pty name pid pk (checkOffset_le ho) hp ⟨hpk, hname, hso, hidx⟩]
  exact ⟨rfl, alookup_append_new _ _ _ hidx, reg_child_new hpk hname,
    reg_key_cid s a pid pk self o ty name hpk⟩

/-- non-vacuity of `c11_fresh_registration_reachable_both`: a struct registered at the top level is indexed -/
example : (runK [.reg 1 none 5 (some 0) 7 0 [0x73]]).findKey 1 5 0 7 = some 1 := by decide +kernel

theorem saveKey_top_fresh (s : StateChanges) (a : Addr) (self : Word) (off : Option Word) (o : Nat) (ty pty : Word) (name : Bytes)
    (pk : KeyNode) (hco : checkOffset off = some o)
    (hf : FreshUnder (s.ensureRoot a).1 a (s.ensureRoot a).2 pk self o ty name) :
    s.saveKey a none self off ty pty name = (regUnder (s.ensureRoot a).1 a (s.ensureRoot a).2 pk self o ty name, none) := by
  rw [saveKey_eq]
  simp only [hco]
  exact saveKey_under _ a _ pk self o ty name hf

theorem wj_child_old (s : StateChanges) (j : KeyNode) (m : Nat) (x : Bytes) (hm : m < s.keys.length) :
    child (withJunk s j) m x = child s m x :=
  child_append_left rfl hm x

theorem wj_walk_old (s : StateChanges) (hs : Agree s) (j : KeyNode) :
    ∀ (p : List Bytes) (r : Nat), r < s.keys.length → walk (withJunk s j) (some r) p = walk s (some r) p :=
  hs.walk_eq (wj_child_old s j)

theorem agree_withJunk (s : StateChanges) (hs : Agree s) (j : KeyNode) (hj : j.childrenIndex = []) : Agree (withJunk s j) :=
  hs.extend 0 (hlen := by simp [withJunk]) (hindex := rfl) (hold := fun _ _ h => h) (hroots := fun _ _ h => Or.inl h)
    (hkey := fun i k hk => ⟨k, getElem_opt_concat_some.mpr (Or.inl hk), rfl, rfl, rfl⟩)
    (hchild := child_concat rfl hj)

/-- the registration names an existing child of its parent by the same name AND the same (slot, offset), which is the
    flat-index entry for its coordinates: an exact re-registration -/
def ExactRereg (s1 : StateChanges) (a : Addr) (pid : Nat) (pk : KeyNode) (self : Word) (o : Nat) (name : Bytes) (ex : Nat) (ek : KeyNode) : Prop :=
  s1.keys[pid]? = some pk ∧ alookup name pk.childrenIndex = some ex ∧ alookup (self, o) pk.children = some ex ∧
  s1.keys[ex]? = some ek ∧ (alookup (a, ek.slot.getD 0, ek.offset, ek.typeId) s1.index).isSome = true

-- the let-block is `regTail s1 a pid self o ty name` (Proofs/KeyTreeKit.lean) unfolded
theorem saveKey_under_rereg (s1 : StateChanges) (a : Addr) (pid : Nat) (pk : KeyNode) (self : Word) (o : Nat) (ty : Word) (name : Bytes)
    (ex : Nat) (ek : KeyNode) (hf : ExactRereg s1 a pid pk self o name ex ek) :
    (let cid := s1.keys.length
     let child : KeyNode := { slot := some self, offset := o, data := name, typeId := ty, nodeType := .branch }
     let r := addChild (s1.keys ++ [child]) pid cid self o name
     let s2 : StateChanges := { s1 with keys := r.1 }
     match r.1[r.2]? with
     | none => (s2, (none : Option String))
     | some rk => (s2.addKey a (rk.slot.getD 0) rk.offset rk.typeId r.2, none)) =
      (withJunk s1 { slot := some self, offset := o, data := name, typeId := ty, nodeType := .branch }, none) := by
  obtain ⟨hpk, hname, hso, hek, hidx⟩ := hf
  simp only [addChild, getElem_opt_concat_some.mpr (Or.inl hpk), hname, hso]
  -- the parent is rewritten to what it was
  rw [modify_self _ pid _ (fun x hx => by cases (getElem_opt_concat_some.mpr (Or.inl hpk)).symm.trans hx; rfl)]
  simp only [getElem_opt_concat_some.mpr (Or.inl hek), addKey]
  cases hl : alookup (a, ek.slot.getD 0, ek.offset, ek.typeId) s1.index with
  | none => rw [hl] at hidx; cases hidx
  | some v => rfl

/-- **re-registering an existing key is idempotent**: what an exact re-registration leaves behind (an unreachable arena node)
    changes the answer of no lookup — by name path, by (slot, offset, type), `Variable`, `Slot` -/
theorem c11_reregistration_idempotent (s : StateChanges) (hs : Agree s) (j : KeyNode) :
    (∀ a name ixs, (withJunk s j).findKeyIndices a name ixs = s.findKeyIndices a name ixs) ∧
    (∀ a sl o ty, (withJunk s j).findKey a sl o ty = s.findKey a sl o ty) ∧
    (∀ a name ixs, (withJunk s j).variableQ a name ixs = s.variableQ a name ixs) ∧
    (∀ a sl off ty, (withJunk s j).slotQ a sl off ty = s.slotQ a sl off ty) := by
  have hfi : ∀ a name ixs, (withJunk s j).findKeyIndices a name ixs = s.findKeyIndices a name ixs := by
    intro a name ixs
    rw [findKeyIndices_eq_walk, findKeyIndices_eq_walk]
    exact Option.bind_congr fun r hr => wj_walk_old s hs j _ r (hs.rootValid a r hr)
  -- both queries read the record at the id found, which is an old one
  have hkey : ∀ {id}, id < s.keys.length → (withJunk s j).keys[id]? = s.keys[id]? := fun h => List.getElem?_append_left h
  refine ⟨hfi, fun _ _ _ _ => rfl, ?_, ?_⟩
  · intro a name ixs
    unfold variableQ
    rw [hfi]
    exact Option.bind_congr fun id hf => by rw [hkey (hs.findKeyIndices_lt hf)]
  · intro a sl off ty
    unfold slotQ
    cases checkOffset off with
    | none => rfl
    | some o =>
      refine congrArg Except.ok (Option.bind_congr fun id hf => ?_)
      obtain ⟨⟨k, hk, _⟩, _⟩ := hs.idx a sl o ty id hf
      rw [hkey (List.getElem?_eq_some_iff.mp hk).1]

theorem saveKey_nested_rereg (s : StateChanges) (a : Addr) (p self : Word) (off : Option Word) (o : Nat) (ty pty : Word) (name : Bytes)
    (pid : Nat) (pk : KeyNode) (ex : Nat) (ek : KeyNode) (hco : checkOffset off = some o) (hp : s.findKey a p 0 pty = some pid)
    (hf : ExactRereg s a pid pk self o name ex ek) :
    s.saveKey a (some p) self off ty pty name =
      (withJunk s { slot := some self, offset := o, data := name, typeId := ty, nodeType := .branch }, none) := by
  rw [saveKey_eq]
  simp only [hco, hp]
  exact saveKey_under_rereg s a pid pk self o ty name ex ek hf

theorem saveKey_top_rereg (s : StateChanges) (a : Addr) (self : Word) (off : Option Word) (o : Nat) (ty pty : Word) (name : Bytes)
    (pk : KeyNode) (ex : Nat) (ek : KeyNode) (hco : checkOffset off = some o)
    (hf : ExactRereg (s.ensureRoot a).1 a (s.ensureRoot a).2 pk self o name ex ek) :
    s.saveKey a none self off ty pty name =
      (withJunk (s.ensureRoot a).1 { slot := some self, offset := o, data := name, typeId := ty, nodeType := .branch }, none) := by
  rw [saveKey_eq]
  simp only [hco]
  exact saveKey_under_rereg _ a _ pk self o ty name ex ek hf

/-- an operation is conflict-free in state `s`: any change journal; a registration that is refused; a registration whose
    name, (slot, offset) under its parent and (account, slot, offset, type) are all new — top-level or nested; or an exact
    re-registration (same name and same (slot, offset) denoting the same existing child) -/
def ConflictFree (s : StateChanges) : KOp → Prop
  | .change _ _ _ _ _ => True
  | .reg a parent self off ty pty name =>
    (s.saveKey a parent self off ty pty name).2.isSome = true ∨
    (∃ o, checkOffset off = some o ∧
      match parent with
      | none => ∃ pk, FreshUnder (s.ensureRoot a).1 a (s.ensureRoot a).2 pk self o ty name ∨
                       ∃ ex ek, ExactRereg (s.ensureRoot a).1 a (s.ensureRoot a).2 pk self o name ex ek
      | some p => ∃ pid pk, s.findKey a p 0 pty = some pid ∧
                    (FreshUnder s a pid pk self o ty name ∨ ∃ ex ek, ExactRereg s a pid pk self o name ex ek))

def CFRun : StateChanges → List KOp → Prop
  | _, [] => True
  | s, op :: rest => ConflictFree s op ∧ CFRun (op.apply s) rest

theorem agree_step (s : StateChanges) (hs : Agree s) (op : KOp) (hcf : ConflictFree s op) : Agree (op.apply s) := by
  cases op with
  | change a self off ty v => exact agree_saveChange s hs a self off ty 0 v
  | reg a parent self off ty pty name =>
    simp only [KOp.apply]
    rcases hcf with href | ⟨o, hco, hfresh⟩
    · rw [saveKey_refused href]
      exact hs
    · cases parent with
      | none =>
        obtain ⟨pk, hf | ⟨ex, ek, hr⟩⟩ := hfresh
        · rw [saveKey_top_fresh s a self off o ty pty name pk hco hf]
          obtain ⟨hs1, hroot⟩ := agree_ensureRoot s hs a
          exact agree_regUnder _ a _ pk self o ty name hf.1 hs1 hf.2.1 hf.2.2.2 ⟨_, [], hroot, rfl⟩
        · rw [saveKey_top_rereg s a self off o ty pty name pk ex ek hco hr]
          exact agree_withJunk _ (agree_ensureRoot s hs a).1 _ rfl
      | some p =>
        obtain ⟨pid, pk, hp, hf | ⟨ex, ek, hr⟩⟩ := hfresh
        · rw [saveKey_nested_fresh s a p self off o ty pty name pid pk hco hp hf]
          obtain ⟨_, r, pth, hr, _, hw⟩ := hs.idx a p 0 pty pid hp
          exact agree_regUnder s a pid pk self o ty name hf.1 hs hf.2.1 hf.2.2.2 ⟨r, pth, hr, hw⟩
        · rw [saveKey_nested_rereg s a p self off o ty pty name pid pk ex ek hco hp hr]
          exact agree_withJunk s hs _ rfl

theorem agree_run (ops : List KOp) : ∀ (s : StateChanges), Agree s → CFRun s ops → Agree (ops.foldl KOp.apply s) := by
  induction ops with
  | nil => intro s hs _; exact hs
  | cons op rest ih => intro s hs h; exact ih _ (agree_step s hs op h.1) h.2

/-- **C11, every conflict-free history**: after any sequence of registrations (top-level and nested, accepted or refused)
    and change journals in which no registration conflicts with an earlier one, the two lookup structures agree -/
theorem c11_conflict_free_agree (ops : List KOp) (h : CFRun {} ops) : Agree (runK ops) :=
  agree_run ops {} agree_empty h

/-- … so a variable found by name and index path is found by its own (slot, offset, type) at the SAME record, -/
theorem c11_by_path_then_by_slot (ops : List KOp) (h : CFRun {} ops) (a : Addr) (name : Bytes) (ixs : List Bytes) (id : Nat)
    (hf : (runK ops).findKeyIndices a name ixs = some id) :
    ∃ k sl, (runK ops).keys[id]? = some k ∧ k.slot = some sl ∧ (runK ops).findKey a sl k.offset k.typeId = some id := by
  obtain ⟨r, hr, hw⟩ := findKeyIndices_eq_some.mp hf
  exact (c11_conflict_free_agree ops h).path a r (name :: ixs) id hr (List.cons_ne_nil _ _) hw

/-- … and a key found by (slot, offset, type) carries those coordinates and is reachable by a name and index path at
    the same record -/
theorem c11_by_slot_then_by_path (ops : List KOp) (h : CFRun {} ops) (a : Addr) (sl : Word) (o : Nat) (ty : Word) (id : Nat)
    (hf : (runK ops).findKey a sl o ty = some id) :
    (∃ k, (runK ops).keys[id]? = some k ∧ k.slot = some sl ∧ k.offset = o ∧ k.typeId = ty) ∧
    ∃ name ixs, (runK ops).findKeyIndices a name ixs = some id := by
  have hs := c11_conflict_free_agree ops h
  obtain ⟨hk, r, pth, hr, hne, hw⟩ := hs.idx a sl o ty id hf
  refine ⟨hk, ?_⟩
  cases pth with
  | nil => exact absurd rfl hne
  | cons name ixs => exact ⟨name, ixs, findKeyIndices_eq_some.mpr ⟨r, hr, hw⟩⟩

/-- the change sets returned by `Variable` and by `Slot` for such a key are the same value -/
theorem c11_same_changes (ops : List KOp) (h : CFRun {} ops) (a : Addr) (name : Bytes) (ixs : List Bytes) (id : Nat)
    (hf : (runK ops).findKeyIndices a name ixs = some id) :
    ∃ k sl, (runK ops).keys[id]? = some k ∧ k.slot = some sl ∧
      (k.offset ≤ 31 → (runK ops).slotQ a sl (some k.offset) k.typeId = .ok ((runK ops).variableQ a name ixs)) := by
  obtain ⟨k, sl, hk, hsl, hfk⟩ := c11_by_path_then_by_slot ops h a name ixs id hf
  refine ⟨k, sl, hk, hsl, fun hle => ?_⟩
  simp [slotQ, variableQ, checkOffset_le hle, hfk, hf]

/-- executable test for the two accepted kinds of registration under parent content `pk` in state `s1` -/
def okUnder (s1 : StateChanges) (a : Addr) (pk : KeyNode) (self : Word) (o : Nat) (ty : Word) (name : Bytes) : Bool :=
  ((alookup name pk.childrenIndex).isNone && (alookup (self, o) pk.children).isNone && (alookup (a, self, o, ty) s1.index).isNone) ||
  (match alookup name pk.childrenIndex, alookup (self, o) pk.children with
   | some e1, some e2 =>
     e1 == e2 && (match s1.keys[e1]? with
                  | some ek => (alookup (a, ek.slot.getD 0, ek.offset, ek.typeId) s1.index).isSome
                  | none => false)
   | _, _ => false)

theorem okUnder_sound (s1 : StateChanges) (a : Addr) (pid : Nat) (pk : KeyNode) (self : Word) (o : Nat) (ty : Word) (name : Bytes)
    (hpk : s1.keys[pid]? = some pk) (h : okUnder s1 a pk self o ty name = true) :
    FreshUnder s1 a pid pk self o ty name ∨ ∃ ex ek, ExactRereg s1 a pid pk self o name ex ek := by
  simp only [okUnder, Bool.or_eq_true] at h
  rcases h with h | h
  · simp only [Bool.and_eq_true, Option.isNone_iff_eq_none] at h
    exact Or.inl ⟨hpk, h.1.1, h.1.2, h.2⟩
  · split at h
    · next e1 e2 h1 h2 =>
      simp only [Bool.and_eq_true, beq_iff_eq] at h
      obtain ⟨rfl, hk⟩ := h
      split at hk
      · next ek hek => exact Or.inr ⟨e1, ek, hpk, h1, h2, hek, hk⟩
      · cases hk
    · cases h

def cfCheck (s : StateChanges) : KOp → Bool
  | .change _ _ _ _ _ => true
  | .reg a parent self off ty pty name =>
    (s.saveKey a parent self off ty pty name).2.isSome ||
    (match checkOffset off with
     | none => false
     | some o =>
       match parent with
       | none =>
         (match (s.ensureRoot a).1.keys[(s.ensureRoot a).2]? with
          | none => false
          | some pk => okUnder (s.ensureRoot a).1 a pk self o ty name)
       | some p =>
         (match s.findKey a p 0 pty with
          | none => false
          | some pid =>
            match s.keys[pid]? with
            | none => false
            | some pk => okUnder s a pk self o ty name))

theorem cfCheck_sound (s : StateChanges) (op : KOp) (h : cfCheck s op = true) : ConflictFree s op := by
  cases op with
  | change a self off ty v => trivial
  | reg a parent self off ty pty name =>
    simp only [cfCheck, Bool.or_eq_true] at h
    refine h.imp id fun h => ?_
    split at h
    · cases h
    · next o hco =>
      refine ⟨o, hco, ?_⟩
      cases parent with
      | none =>
        simp only at h ⊢
        split at h
        · cases h
        · next pk hk => exact ⟨pk, okUnder_sound _ a _ pk self o ty name hk h⟩
      | some p =>
        simp only at h ⊢
        split at h
        · cases h
        · next pid hp =>
          split at h
          · cases h
          · next pk hk => exact ⟨pid, pk, hp, okUnder_sound s a pid pk self o ty name hk h⟩

def cfRunCheck : StateChanges → List KOp → Bool
  | _, [] => true
  | s, op :: rest => cfCheck s op && cfRunCheck (op.apply s) rest

theorem cfRunCheck_sound : ∀ (ops : List KOp) (s : StateChanges), cfRunCheck s ops = true → CFRun s ops
  | [], _, _ => trivial
  | op :: rest, s, h => by
    simp only [cfRunCheck, Bool.and_eq_true] at h
    exact ⟨cfCheck_sound s op h.1, cfRunCheck_sound rest _ h.2⟩

/-- non-vacuity: two accounts with the same variable name, a struct member and a mapping entry under one parent, a
    refused registration (offset 32), a change and an exact re-registration — conflict-free, so the theorems apply; the conflicting histories of
    D14 are rejected by the test -/
def cfExample : List KOp :=
  [ .reg 1 none 5 (some 0) 7 0 [0x61], .reg 1 (some 5) 9 (some 0) 8 7 [1], .reg 2 none 5 (some 0) 7 0 [0x61],
    .reg 1 none 6 (some 32) 7 0 [0x62], .change 1 9 (some 0) 8 [0xee], .reg 1 (some 5) 10 (some 4) 8 7 [2],
    .reg 1 (some 5) 9 (some 0) 8 7 [1] ]

example : cfRunCheck {} cfExample = true ∧ (runK cfExample).findKeyIndices 1 [0x61] [[2]] = some 5 ∧
    (runK cfExample).findKey 1 10 4 8 = some 5 := by decide +kernel

example : Agree (runK cfExample) := c11_conflict_free_agree cfExample (cfRunCheck_sound _ _ (by decide +kernel))

example : cfRunCheck {} [.reg 1 none 5 (some 0) 7 0 [0x61], .reg 1 none 6 (some 0) 7 0 [0x61]] = false ∧
    cfRunCheck {} [.reg 1 none 5 (some 0) 7 0 [0x61], .reg 1 none 5 (some 0) 8 0 [0x62]] = false ∧
    cfRunCheck {} [.reg 1 none 5 (some 0) 7 0 [0x61], .reg 1 none 5 (some 0) 7 0 [0x62]] = false := by decide +kernel

end Artela
