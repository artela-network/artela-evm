import Artela.Proofs.GenFacts
import Artela.Proofs.FrameShape
import Artela.Proofs.FoldKit
import Artela.Model.CallTracer
/-
  C18 — debug-tracer event stream and inherited tracers match the reference (the part carried by proof).

  * the debug callbacks the frame functions emit stay balanced for every event sequence, also when a join point
    aborts a call: #start + #enter − #end − #exit always equals the number of open frames that announced themselves
    (so it is 0 whenever every frame has returned);
  * the callbacks do not depend on the Artela tracer, and an unbound join point does not change them (C01);
  * without Aspect events the fork's call tracer never creates an Aspect frame (`c18_calltracer_no_aspect`);
  * every declaration under tracers/ is upstream's or is in the modelled delta (regenerated table, `c18_tracers_identical`).
-/
namespace Artela
open Frame

/-- net number of frames announced and not yet closed -/
def openCount : List DebugEvent → Int
  | [] => 0
  | .start _ _ _ _ _ _ :: rest => openCount rest + 1
  | .enter _ _ _ _ _ _ :: rest => openCount rest + 1
  | .end_ _ _ _ :: rest => openCount rest - 1
  | .exit _ _ _ :: rest => openCount rest - 1

@[simp] theorem openCount_nil : openCount [] = 0 := rfl

theorem openCount_append (a b : List DebugEvent) : openCount (a ++ b) = openCount a + openCount b := by
  induction a with
  | nil => simp [openCount]
  | cons x xs ih => cases x <;> simp [openCount, ih] <;> omega

def announced (stack : List OpenFrame) : Int := ((stack.filter (fun fr => fr.facts.debug)).length : Int)

theorem openCount_open (d top : Bool) (k : CallKind) (f t : Addr) (i : Bytes) (g : Nat) (v : Option Nat) :
    openCount (openDebug d top k f t i g v) = if d then 1 else 0 := by
  unfold openDebug; cases d <;> cases top <;> simp [openCount]

theorem openCount_close (d top : Bool) (r : Option Bytes) (g : Nat) (e : Option String) :
    openCount (closeDebug d top r g e) = if d then -1 else 0 := by
  unfold closeDebug; cases d <;> cases top <;> simp [openCount]

def Balanced (st : FState) : Prop := openCount st.events = announced st.stack

theorem finish_events (st : FState) (k : CallKind) (c t : Addr) (gs : Nat) (tn dbg top : Bool) (sg : Nat)
    (r : Option Bytes) (g : Nat) (e : Option String) (w en sn : List Effect) (ran : Bool) :
    (finish st k c t gs tn dbg top sg r g e w en sn ran).events = st.events ++ (if dbg then closeDebug true top r (subU64 sg g) e else []) := rfl

theorem announced_cons (fr : OpenFrame) (rest : List OpenFrame) :
    announced (fr :: rest) = announced rest + if fr.facts.debug then 1 else 0 := by
  unfold announced; rw [List.filter_cons]; cases fr.facts.debug <;> simp

theorem openCount_finish (st : FState) (k : CallKind) (c t : Addr) (gs : Nat) (tn dbg top : Bool) (sg : Nat)
    (r : Option Bytes) (g : Nat) (e : Option String) (w en sn : List Effect) (ran : Bool) :
    openCount (finish st k c t gs tn dbg top sg r g e w en sn ran).events = openCount st.events - if dbg then 1 else 0 := by
  rw [finish_events, openCount_append]; cases dbg <;> simp [openCount_close] <;> omega

theorem balanced_ends (hb : Balanced st) : Balanced (ends st nd k c t v i g f p V) := by
  unfold Balanced at *
  cases V with
  | refused =>
    rw [ends, openCount_finish]
    simpa using hb
  | absent =>
    rw [ends, openCount_finish]
    simp only [openCount_append, openCount_open, openCount_close, finish_stack']
    cases f.debug <;> simp <;> omega
  | answered =>
    rw [ends, openCount_finish]
    simp only [openCount_append, openCount_open, finish_stack']
    cases f.debug <;> simp <;> omega
  | runs =>
    rw [ends]
    simp only [openCount_append, openCount_open, announced_cons]
    omega

theorem c18_enterCall_balanced (st : FState) (caller to : Addr) (value : Nat) (input : Bytes) (gas : Nat) (f : EnterFacts)
    (h : Balanced st) : Balanced (enterCall st caller to value input gas f) := by
  rw [enterCall_eq]; exact balanced_ends h

theorem c18_enterOther_balanced (st : FState) (kind : CallKind) (caller to : Addr) (value : Nat) (input : Bytes) (gas : Nat) (f : EnterFacts)
    (h : Balanced st) : Balanced (enterOther st kind caller to value input gas f) := by
  rw [enterOther_eq]; exact balanced_ends h

theorem c18_enterCreate_balanced (st : FState) (kind : CallKind) (caller to : Addr) (value : Nat) (input : Bytes) (gas : Nat) (f : EnterFacts)
    (h : Balanced st) : Balanced (enterCreate st kind caller to value input gas f) := by
  rw [enterCreate_eq]; exact balanced_ends h

theorem balanced_halts (h : Halts st fr rest ret err gasLeft post st') (hs : st.stack = fr :: rest)
    (hb : Balanced st) : Balanced st' := by
  unfold Balanced at *
  rw [hs, announced_cons] at hb
  cases h with
  | tail => rw [openCount_finish]; simp only [finish_stack']; omega
  | create =>
    rw [openCount_finish]
    simp only [openCount_append, openCount_close, finish_stack']
    rw [hb]; cases fr.facts.debug <;> simp <;> omega

theorem c18_haltFrame_balanced (st : FState) (fr : OpenFrame) (rest : List OpenFrame) (ret : Option Bytes) (err : Option String)
    (gasLeft : Nat) (post : JPResult) (hs : st.stack = fr :: rest) (h : Balanced st) :
    Balanced (haltFrame st fr rest ret err gasLeft post) := balanced_halts (haltFrame_halts ..) hs h

theorem c18_step_balanced (st : FState) (ev : FEvent) (h : Balanced st) : Balanced (step st ev) := by
  generalize step st ev = st', step_shape st ev = hS
  cases hS with
  | enters => exact balanced_ends h
  | halts hs hH => exact balanced_halts hH hs h
  | _ => exact h

/-- **C18, callback balance, every event sequence**: whatever the interpreter, the host, the precompiles and the join
    points do, the debug callbacks emitted by the five frame functions are balanced against the open frames -/
theorem c18_run_balanced (evs : List FEvent) : Balanced (run {} evs) :=
  foldl_inv c18_step_balanced evs {} (by unfold Balanced announced; simp)

/-- … so when every frame has returned, every Start/Enter has had its End/Exit -/
theorem c18_all_closed (evs : List FEvent) (h : (run {} evs).stack = []) : openCount (run {} evs).events = 0 := by
  have := c18_run_balanced evs
  unfold Balanced announced at this
  rw [this, h]; simp

/-- the one place where a callback other than the two Aspect ones writes the Aspect arena is `exit` under a running join point -/
theorem step_aspects_same (st : TState) (ev : TEvent) (hno : ∀ jp f t a i g v, ev ≠ .aspectEnter jp f t a i g v)
    (hno2 : ∀ jp g r e, ev ≠ .aspectExit jp g r e) (hj : ∀ f ∈ st.frames, f.curJP = none) :
    ∀ st', CallTracer.step st ev = .ok st' → st'.aspects = st.aspects := by
  intro st' h
  cases ev with
  | aspectEnter jp f t a i g v => exact absurd rfl (hno jp f t a i g v)
  | aspectExit jp g r e => exact absurd rfl (hno2 jp g r e)
  | exit o g e =>
    simp only [CallTracer.step] at h
    split at h
    · cases h; rfl
    · split at h
      · cases h
      · cases h; rfl
      · split at h
        · cases h
        · rename_i pf hpf
          rw [hj pf (List.mem_of_getElem? hpf)] at h
          cases h; rfl
  | enter ty f t i g v => simp only [CallTracer.step] at h; split at h <;> (cases h; rfl)
  | _ => cases h; rfl

/-- without Aspect events a step leaves the Aspect arena empty: the only other callback that writes it is `exit` under a
    running join point (`step_aspects_same`), and `curJP` is set by `aspectEnter` alone; that the remaining cases of `step`
    are upstream's code is read off the source, not proved -/
theorem c18_calltracer_no_aspect (st : TState) (ev : TEvent) (hno : ∀ jp f t a i g v, ev ≠ .aspectEnter jp f t a i g v)
    (hno2 : ∀ jp g r e, ev ≠ .aspectExit jp g r e) (hj : ∀ f ∈ st.frames, f.curJP = none ∧ f.jps = []) (ha : st.aspects = []) :
    ∀ st', CallTracer.step st ev = .ok st' → st'.aspects = [] :=
  fun st' h => (step_aspects_same st ev hno hno2 (fun f hf => (hj f hf).1) st' h).trans ha

/-- `delta_is_modelled`: every declaration that differs from upstream's is in the modelled delta (Spec/Delta.lean); under
    tracers/ these are the call / flat-call tracer functions and codecs and `prestateTracer.CaptureState`, everything else
    there is upstream's source -/
theorem c18_tracers_identical : Gen.declDelta.all (fun r => expectedDelta.contains r) = true := delta_is_modelled

end Artela
