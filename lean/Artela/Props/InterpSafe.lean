import Artela.Props.InterpGas
import Artela.Proofs.JournalSafe
/-
  C03 for the interpreter loop: no iteration panics.  The invariant is memory below the gas schedule's ceiling (`memCeil`).  On a
  table whose rows are `rowSafe` the part before `execute` hands over a stack that holds the operands and a memory that covers
  the range the size function asked for (`Covered`); there every partial Go operation of `execute` is defined.
-/
namespace Artela
namespace Interp
variable {World : Type}

/-- the memory ceiling the gas schedule enforces: the literal `memoryGasCost` refuses anything above (`memoryGasCost_cap`) -/
def memCeil : Nat := 0x1FFFFFFFE0

theorem memoryGasCost_bound {len last m g l : Nat} (h : memoryGasCost len last m = some (g, l)) : m ≤ memCeil :=
  memoryGasCost_cap h

theorem gasMcopy_bound {len last m g l : Nat} {w : Word} (h : gasMcopy len last m w = some (g, l)) : m ≤ memCeil := by
  obtain ⟨_, hm, _⟩ := gasMcopy_some h; exact memoryGasCost_cap hm

theorem words_cover {n : Nat} (h : toWordSize n * 32 < U64) : n ≤ toWordSize n * 32 ∧ (n = 0 ↔ toWordSize n * 32 = 0) := by
  have hU := U64_eq
  have hM := maxU64_eq
  unfold toWordSize at *
  split at h <;> rename_i hc
  · rw [hM] at h hc; omega
  · rw [if_neg hc]; omega

/-- the row's gas function is one of the three that charge for memory -/
def memDyn (row : Row) : Prop := row.dyn = "pureMemoryGascost" ∨ row.dyn = "memoryCopierGas" ∨ row.dyn = "gasKeccak256"

theorem dynGas_mem_bound {name : String} (hd : name = "pureMemoryGascost" ∨ name = "memoryCopierGas" ∨ name = "gasKeccak256")
    {st : List Word} {len last m c l : Nat} (h : dynGasOf name st len last m = .cost c l) : m ≤ memCeil := by
  obtain ⟨_, _, hm, _⟩ | ⟨⟨h1, h2, h3⟩, _⟩ := dynGasOf_out h
  · exact memoryGasCost_cap hm
  · rcases hd with hd | hd | hd <;> contradiction

theorem dynPart_memRow {op : Nat} {row : Row} {s s1 : IState World} (hd : memDyn row) (hm : row.mem ≠ "-")
    (h : dynPart op row s = .next s1) (hinv : s.mem.length ≤ memCeil) :
    ∃ msz, memSizeOf row.mem s.stack = some (some (msz, false)) ∧ msz ≤ s1.mem.length ∧ s1.mem.length ≤ memCeil ∧
      (msz = 0 → s1.mem = s.mem) := by
  obtain ⟨hdash, _⟩ | ⟨_, m, c, l, hmp, hc, _, rfl⟩ := dynPart_out h
  · rcases hd with h | h | h <;> rw [h] at hdash <;> exact absurd hdash (by decide)
  · obtain ⟨h0, _⟩ | ⟨_, msz, hs, rfl, hU⟩ := memPart_out hmp
    · exact absurd h0 hm
    · have hb := dynGas_mem_bound hd hc
      have hw := words_cover hU
      have hl := memResize_length s.mem (toWordSize msz * 32)
      refine ⟨msz, hs, by dsimp only; omega, by dsimp only; omega, fun h0 => ?_⟩
      dsimp only
      rw [hw.2.mp h0, memResize_zero]

theorem dynPart_covers {op : Nat} {row : Row} {s s1 : IState World} (hd : memDyn row) (hm : row.mem ≠ "-")
    (h : dynPart op row s = .next s1) {msz : Nat} {ovf : Bool}
    (hs : memSizeOf row.mem s.stack = some (some (msz, ovf))) (hinv : s.mem.length ≤ memCeil) :
    ovf = false ∧ msz ≤ memCeil ∧ msz ≤ s1.mem.length ∧ s1.mem.length ≤ memCeil ∧ (msz = 0 → s1.mem = s.mem) := by
  obtain ⟨_, hs', h1, h2, h3⟩ := dynPart_memRow hd hm h hinv
  rw [hs] at hs'; cases hs'
  exact ⟨rfl, Nat.le_trans h1 h2, h1, h2, h3⟩

theorem memCeil_eq : memCeil = 137438953440 := by decide

theorem memGetPtr_inside (store : Bytes) (off size : Nat) (h : off + size ≤ store.length) (hb : store.length ≤ memCeil) :
    ∃ d, memGetPtr store off size = .ok d := by
  have hC := memCeil_eq
  unfold memGetPtr
  dsimp only
  rw [toInt64_small off (by omega), toInt64_small size (by omega)]
  by_cases hz : size = 0
  · subst hz; exact ⟨[], by simp⟩
  · rw [if_neg (by omega), if_pos (by omega), if_neg (by omega), addInt64_small off size (by omega), if_neg (by omega)]
    simp only [Int.toNat_natCast]
    exact goSlice_ok _ _ _ _ ⟨by omega, by omega⟩

theorem memSet_inside (store : Bytes) (off size : Nat) (v : Bytes) (h : off + size ≤ store.length) (hb : store.length ≤ memCeil) :
    ∃ m, memSet store off size v = .ok m ∧ m.length = store.length := by
  have hC := memCeil_eq
  have hU := U64_eq
  unfold memSet
  by_cases hz : size = 0
  · rw [if_pos hz]; exact ⟨store, rfl, rfl⟩
  · rw [if_neg hz]
    have hm : (off + size) % U64 = off + size := Nat.mod_eq_of_lt (by omega)
    rw [hm, if_neg (by omega), if_neg (by omega)]
    exact ⟨_, rfl, writeAt_length _ _ _ _ h⟩

theorem memSet32_inside (store : Bytes) (off : Nat) (val : Word) (h : off + 32 ≤ store.length) (hb : store.length ≤ memCeil) :
    ∃ m, memSet32 store off val = .ok m ∧ m.length = store.length := by
  have hC := memCeil_eq
  have hU := U64_eq
  unfold memSet32
  have hm : (off + 32) % U64 = off + 32 := Nat.mod_eq_of_lt (by omega)
  rw [hm, if_neg (by omega), if_neg (by omega)]
  exact ⟨_, rfl, writeAt_length _ _ _ _ (by omega)⟩

theorem memGetPtr_ok (store : Bytes) (off size : Nat) (h : size = 0 ∨ off + size ≤ store.length) (hb : store.length ≤ memCeil) :
    ∃ d, memGetPtr store off size = .ok d := by
  rcases h with rfl | h
  · exact ⟨[], by simp [memGetPtr, toInt64]⟩
  · exact memGetPtr_inside store off size h hb

theorem memSet_ok (store : Bytes) (off size : Nat) (v : Bytes) (h : size = 0 ∨ off + size ≤ store.length) (hb : store.length ≤ memCeil) :
    ∃ m, memSet store off size v = .ok m := by
  rcases h with rfl | h
  · exact ⟨store, rfl⟩
  · obtain ⟨m, hm, _⟩ := memSet_inside store off size v h hb; exact ⟨m, hm⟩

theorem memCopyGo_safe (store : Bytes) (dst src len : Nat) (hd : len = 0 ∨ (dst + len ≤ store.length ∧ src + len ≤ store.length))
    (hb : store.length ≤ memCeil) : ∃ m, memCopyGo store store.length dst src len = .ok m ∧ m.length = store.length := by
  have hC := memCeil_eq
  have hU := U64_eq
  by_cases hz : len = 0
  · exact ⟨store, by rw [memCopyGo, if_pos hz], rfl⟩
  · obtain ⟨h1, h2⟩ := hd.resolve_left hz
    have he := memCopyGo_inside store dst src len (by omega) h1 h2 (by omega)
    exact ⟨_, he, memCopyGo_length he⟩

/-- the size function vm/jump_table.go wires to the instruction; `"-"`: none -/
def memName : Instr → String
  | .mload => "memoryMLoad" | .mstore => "memoryMStore" | .mstore8 => "memoryMStore8"
  | .calldatacopy => "memoryCallDataCopy" | .codecopy => "memoryCodeCopy" | .returndatacopy => "memoryReturnDataCopy"
  | .mcopy => "memoryMcopy" | .ret => "memoryReturn" | .revert => "memoryRevert" | .keccak => "memoryKeccak256" | _ => "-"

/-- what Go guarantees about the frame's byte slices, and what the journal instructions need of their view -/
structure EnvOK (env : IEnv World) : Prop where
  input : env.input.length < 2 ^ 62
  code  : env.code.length < 2 ^ 62
  jenv  : ∀ w m, m.length ≤ memCeil → (env.mkEnv w m).WF

/-- the range the instruction's memory-size function asks for lies inside memory -/
def Covered (i : Instr) (s : IState World) : Prop :=
  ∀ msz ovf, memSizeOf (memName i) s.stack = some (some (msz, ovf)) → ovf = false ∧ msz ≤ memCeil ∧ msz ≤ s.mem.length

theorem calcMemSize64_ok {off len msz : Nat} (h : calcMemSize64 off len = (msz, false)) :
    (len = 0 ∧ msz = 0) ∨ (0 < len ∧ off < U64 ∧ len < U64 ∧ msz = off + len) := by
  have hU := U64_eq
  unfold calcMemSize64 at h
  split at h
  · cases h
  · split at h
    · rename_i h0; cases h; exact Or.inl ⟨h0, rfl⟩
    · split at h
      · cases h
      · rename_i h1 h2 h3
        simp only [Prod.mk.injEq, decide_eq_false_iff_not] at h
        right
        obtain ⟨hv, hlt⟩ := h
        rw [hU] at *
        refine ⟨by omega, by omega, by omega, ?_⟩
        omega

theorem ge1 {α} {l : List α} (h : 1 ≤ l.length) : ∃ a r, l = a :: r := List.exists_cons_of_length_pos h
theorem ge2 {α} {l : List α} (h : 2 ≤ l.length) : ∃ a b r, l = a :: b :: r := by
  obtain ⟨a, r, rfl⟩ := ge1 (l := l) (by omega)
  obtain ⟨b, r', rfl⟩ := ge1 (l := r) (by simp at h; omega)
  exact ⟨a, b, r', rfl⟩
theorem ge3 {α} {l : List α} (h : 3 ≤ l.length) : ∃ a b c r, l = a :: b :: c :: r := by
  obtain ⟨a, b, r, rfl⟩ := ge2 (l := l) (by omega)
  obtain ⟨c, r', rfl⟩ := ge1 (l := r) (by simp at h; omega)
  exact ⟨a, b, c, r', rfl⟩

theorem memSizeOf_dash (st : List Word) : memSizeOf "-" st = none := by
  simp [memSizeOf]

/-- the offset and length a memory instruction's size function computes from: the stack positions vm/memory_table.go reads
    (MCOPY: the larger of its two offsets); `none` for every other instruction -/
def memArgs : Instr → List Word → Option (Word × Word)
  | .mload, off :: _ => some (off, 32)
  | .mstore, off :: _ => some (off, 32)
  | .mstore8, off :: _ => some (off, 1)
  | .calldatacopy, off :: _ :: len :: _ => some (off, len)
  | .codecopy, off :: _ :: len :: _ => some (off, len)
  | .returndatacopy, off :: _ :: len :: _ => some (off, len)
  | .ret, off :: len :: _ => some (off, len)
  | .revert, off :: len :: _ => some (off, len)
  | .keccak, off :: len :: _ => some (off, len)
  | .mcopy, dst :: src :: len :: _ => some (if src > dst then src else dst, len)
  | _, _ => none

theorem memSizeOf_memName (i : Instr) (st : List Word) (h : i.pops ≤ st.length) :
    memSizeOf (memName i) st = (memArgs i st).map fun p => some (calcMemSize64 p.1 p.2) := by
  cases i
  case mload => obtain ⟨a, r, rfl⟩ := ge1 h; simp [memName, memSizeOf, back, memArgs]
  case mstore | mstore8 => obtain ⟨a, b, r, rfl⟩ := ge2 h; simp [memName, memSizeOf, back, memArgs]
  case ret | revert | keccak => obtain ⟨a, b, r, rfl⟩ := ge2 h; simp [memName, memSizeOf, back, memArgs]
  case calldatacopy | codecopy | returndatacopy => obtain ⟨a, b, c, r, rfl⟩ := ge3 h; simp [memName, memSizeOf, back, memArgs]
  case mcopy => obtain ⟨a, b, c, r, rfl⟩ := ge3 h; simp [memName, memSizeOf, back, memArgs, memoryMcopy]
  all_goals exact memSizeOf_dash st

def Out.notPanic {σ} : Out σ → Prop
  | .panic _ => False
  | _ => True

/-- the two things the safety proof carries through `execute`: no panic, and memory / return data keep their length -/
def ExecSafe (env : IEnv World) (i : Instr) (s : IState World) : Prop :=
  (exec env i s).notPanic ∧ ∀ s', exec env i s = .next s' → s'.mem.length = s.mem.length ∧ s'.rdata = s.rdata

/-- a covered range in the 64-bit operands (`% U64`) `execute` works with: empty, or inside the memory -/
theorem Covered.range {i : Instr} {s : IState World} (hcov : Covered i s) (hst : i.pops ≤ s.stack.length) {off len : Word}
    (h : memArgs i s.stack = some (off, len)) :
    len % U64 = len ∧ len ≤ memCeil ∧ (len = 0 ∨ (off % U64 = off ∧ off + len ≤ s.mem.length)) := by
  obtain ⟨msz, ovf, hc⟩ : ∃ msz ovf, calcMemSize64 off len = (msz, ovf) := ⟨_, _, rfl⟩
  obtain ⟨rfl, _, hm⟩ := hcov msz ovf (by rw [memSizeOf_memName i _ hst, h]; exact congrArg (some ∘ some) hc)
  rcases calcMemSize64_ok hc with ⟨h0, _⟩ | ⟨_, ho, hl, he⟩
  · subst h0; exact ⟨rfl, Nat.zero_le _, .inl rfl⟩
  · exact ⟨Nat.mod_eq_of_lt hl, by omega, .inr ⟨Nat.mod_eq_of_lt ho, by omega⟩⟩

theorem Covered.range_mod {i : Instr} {s : IState World} (hcov : Covered i s) (hst : i.pops ≤ s.stack.length) {off len : Word}
    (h : memArgs i s.stack = some (off, len)) :
    len % U64 ≤ memCeil ∧ (len % U64 = 0 ∨ off % U64 + len % U64 ≤ s.mem.length) := by
  obtain ⟨hl, hc, h0 | ⟨ho, hin⟩⟩ := hcov.range hst h <;> rw [hl]
  · exact ⟨hc, .inl h0⟩
  · rw [ho]; exact ⟨hc, .inr hin⟩

theorem exec_safe (env : IEnv World) (hE : EnvOK env) (i : Instr) (s : IState World) (hst : i.pops ≤ s.stack.length)
    (hn : ∀ n, (i = .dup n ∨ i = .swap n) → 1 ≤ n) (hcov : Covered i s) (hinv : s.mem.length ≤ memCeil) :
    ExecSafe env i s := by
  refine ⟨?_, fun s' h => ⟨(exec_next h).memLen, (exec_next h).rdata⟩⟩
  have hC := memCeil_eq
  cases i
  -- instructions that look at the stack only: the row's floor gives them their operands
  case stop | env | returndatasize | pc | msize | gas | jumpdest | push => exact trivial
  case iszero | not | pop | tload | jump =>
    obtain ⟨x, r, hl⟩ := ge1 hst
    simp only [exec, hl, IState.cont]; (repeat' split) <;> exact trivial
  case bin | exp | jumpi | tstore =>
    obtain ⟨x, y, r, hl⟩ := ge2 hst
    simp only [exec, hl, IState.cont]; (repeat' split) <;> exact trivial
  case addmod | mulmod =>
    obtain ⟨x, y, z, r, hl⟩ := ge3 hst
    simp only [exec, hl, IState.cont]; exact trivial
  case dup n =>
    obtain ⟨m, rfl⟩ : ∃ m, n = m + 1 := ⟨n - 1, by have := hn n (.inl rfl); omega⟩
    have hlen : m < s.stack.length := hst
    simp only [exec, back, Nat.add_sub_cancel, List.getElem?_eq_getElem hlen, IState.cont]; exact trivial
  case swap n =>
    have h1 := hn n (.inr rfl)
    have hlen : n < s.stack.length := hst
    obtain ⟨top, r, hl⟩ := ge1 (l := s.stack) (by omega)
    obtain ⟨v, hb⟩ : ∃ v, back s.stack n = some v := ⟨_, List.getElem?_eq_getElem hlen⟩
    rw [hl] at hb
    simp only [exec, hl, hb, if_neg (Nat.ne_of_gt h1), IState.cont]; exact trivial
  case calldataload =>
    obtain ⟨x, r, hl⟩ := ge1 hst
    simp only [exec, hl, IState.cont]
    split
    · exact trivial
    · obtain ⟨d, hd⟩ := getData_safe env.input x 32 hE.input (by decide)
      rw [hd]; exact trivial
  case journal j =>
    have hst : j.arity ≤ s.stack.length := hst
    have ha : (s.stack.take j.arity).length = j.arity := by rw [List.length_take]; exact Nat.min_eq_left hst
    have hnp := journal_no_panic j (s.stack.take j.arity) (env.mkEnv s.world s.mem) s.tr ha (hE.jenv _ _ hinv)
    simp only [exec, if_neg (Nat.not_lt.mpr hst)]
    split
    · exact trivial
    · exact trivial
    · rename_i hp; rw [hp] at hnp; cases hnp
  -- memory instructions: the dynamic part has made the memory cover the range
  case mload =>
    obtain ⟨off, r, hl⟩ := ge1 hst
    obtain ⟨_, _, h0 | ⟨ho, hin⟩⟩ := hcov.range hst (off := off) (len := 32) (congrArg (memArgs _) hl)
    · cases h0
    · obtain ⟨d, hd⟩ := memGetPtr_inside s.mem off 32 hin hinv
      simp only [exec, hl, ho, hd, IState.cont]; exact trivial
  case mstore =>
    obtain ⟨off, v, r, hl⟩ := ge2 hst
    obtain ⟨_, _, h0 | ⟨ho, hin⟩⟩ := hcov.range hst (off := off) (len := 32) (congrArg (memArgs _) hl)
    · cases h0
    · obtain ⟨m, hd, _⟩ := memSet32_inside s.mem off v hin hinv
      simp only [exec, hl, ho, hd]; exact trivial
  case mstore8 =>
    obtain ⟨off, v, r, hl⟩ := ge2 hst
    obtain ⟨_, _, h0 | ⟨ho, hin⟩⟩ := hcov.range hst (off := off) (len := 1) (congrArg (memArgs _) hl)
    · cases h0
    · simp only [exec, hl, ho, if_pos (show off < s.mem.length by omega)]; exact trivial
  case calldatacopy =>
    obtain ⟨mo, dof, len, r, hl⟩ := ge3 hst
    obtain ⟨hlc, hin⟩ := hcov.range_mod hst (off := mo) (len := len) (congrArg (memArgs _) hl)
    obtain ⟨d, hd⟩ := getData_safe env.input (if dof ≥ U64 then U64 - 1 else dof) (len % U64) hE.input (by omega)
    obtain ⟨m, hms⟩ := memSet_ok s.mem (mo % U64) (len % U64) d hin hinv
    simp only [exec, hl, hd, hms]; exact trivial
  case codecopy =>
    obtain ⟨mo, dof, len, r, hl⟩ := ge3 hst
    obtain ⟨hlc, hin⟩ := hcov.range_mod hst (off := mo) (len := len) (congrArg (memArgs _) hl)
    obtain ⟨d, hd⟩ := getData_safe env.code (if dof ≥ U64 then U64 - 1 else dof) (len % U64) hE.code (by omega)
    obtain ⟨m, hms⟩ := memSet_ok s.mem (mo % U64) (len % U64) d hin hinv
    simp only [exec, hl, hd, hms]; exact trivial
  case returndatacopy =>
    obtain ⟨mo, dof, len, r, hl⟩ := ge3 hst
    have hsz : memArgs .returndatacopy s.stack = some (mo, len) := congrArg (memArgs _) hl
    obtain ⟨hlen, hlc, _⟩ := hcov.range hst hsz
    obtain ⟨_, hin⟩ := hcov.range_mod hst hsz
    have hW := W256_eq
    have hU := U64_eq
    simp only [exec, hl]
    split
    · exact trivial
    · rw [Nat.mod_eq_of_lt (show dof + len < W256 by omega)]
      split
      · exact trivial
      · obtain ⟨d, hd⟩ := goSlice_ok s.rdata s.rdata.length dof (dof + len) ⟨by omega, by omega⟩
        obtain ⟨m, hms⟩ := memSet_ok s.mem (mo % U64) (len % U64) d hin hinv
        simp only [hd, hms]; exact trivial
  case ret | revert | keccak =>
    obtain ⟨off, size, r, hl⟩ := ge2 hst
    obtain ⟨_, hin⟩ := hcov.range_mod hst (off := off) (len := size) (congrArg (memArgs _) hl)
    obtain ⟨d, hd⟩ := memGetPtr_ok s.mem (off % U64) (size % U64) hin hinv
    simp only [exec, hl, hd, IState.cont]; exact trivial
  case mcopy =>
    obtain ⟨dst, src, len, r, hl⟩ := ge3 hst
    obtain ⟨hlen, _, hr⟩ := hcov.range hst (off := if src > dst then src else dst) (len := len) (congrArg (memArgs _) hl)
    have hU := U64_eq
    have hcond : len % U64 = 0 ∨ (dst % U64 + len % U64 ≤ s.mem.length ∧ src % U64 + len % U64 ≤ s.mem.length) := by
      rw [hlen]
      rcases hr with h0 | ⟨ho, hin⟩
      · exact .inl h0
      · have hd : dst % U64 ≤ dst := Nat.mod_le _ _
        have hs : src % U64 ≤ src := Nat.mod_le _ _
        split at hin <;> exact .inr ⟨by omega, by omega⟩
    obtain ⟨m, hms, _⟩ := memCopyGo_safe s.mem (dst % U64) (src % U64) (len % U64) hcond hinv
    simp only [exec, hl, hms]; exact trivial

/-- what the safety proof needs of a table row: the stack floor covers the operands of the execute function, of the
    dynamic-gas function and of the memory-size function; DUP/SWAP are wired to positive depths; a memory instruction
    has exactly its own memory-size function and a gas function that charges for memory; no other instruction has one -/
def rowSafe (row : Row) (i : Instr) : Bool :=
  decide (i.pops ≤ row.minStack) && decide (dynNeed row.dyn ≤ row.minStack) &&
  (match i with | .dup n => decide (1 ≤ n) | .swap n => decide (1 ≤ n) | _ => true) &&
  (row.mem == memName i) &&
  (memName i == "-" || row.dyn == "pureMemoryGascost" || row.dyn == "memoryCopierGas" || row.dyn == "gasKeccak256")

def TableSafe (env : IEnv World) : Prop :=
  ∀ op row i, env.table op = some row → decode row.exec op = some i → rowSafe row i = true

theorem memSizeOf_total (i : Instr) (st : List Word) (h : i.pops ≤ st.length) : memSizeOf (memName i) st ≠ some none := by
  rw [memSizeOf_memName i st h]
  cases memArgs i st <;> nofun

theorem dynGasOf_total (name : String) (st : List Word) (a b m : Nat) (h : dynNeed name ≤ st.length) :
    dynGasOf name st a b m ≠ .stackPanic := fun hp => Nat.not_lt.mpr h (dynGasOf_out hp)

theorem dynPart_notPanic {op : Nat} {row : Row} {i : Instr} {s : IState World} (hs : rowSafe row i = true)
    (hmin : row.minStack ≤ s.stack.length) : (dynPart op row s).notPanic := by
  simp only [rowSafe, Bool.and_eq_true, decide_eq_true_eq, beq_iff_eq] at hs
  obtain ⟨⟨⟨⟨hp, hdn⟩, _⟩, hmem⟩, _⟩ := hs
  cases h : dynPart op row s <;> try trivial
  rcases dynPart_out h with hm | hd
  · exact memSizeOf_total i s.stack (by omega) (hmem ▸ hm)
  · omega

theorem dynPart_nomem {op : Nat} {row : Row} {s s1 : IState World} (hm : row.mem = "-")
    (h : dynPart op row s = .next s1) : s1.mem = s.mem := by
  obtain ⟨_, rfl⟩ | ⟨_, m, _, _, hmp, _, _, rfl⟩ := dynPart_out h
  · rfl
  · obtain ⟨_, rfl⟩ | ⟨h0, _⟩ := memPart_out hmp
    · exact memResize_zero _
    · exact absurd hm h0

/-- the stack limit: a row lets the instruction run only if the stack cannot exceed 1024 afterwards -/
def rowLimit (row : Row) (i : Instr) : Bool := decide (row.maxStack + i.pushes ≤ 1024 + i.pops)

def TableLimit (env : IEnv World) : Prop :=
  ∀ op row i, env.table op = some row → decode row.exec op = some i → rowLimit row i = true

/-- the loop invariant: memory below the ceiling of the gas schedule -/
def Inv (s : IState World) : Prop := s.mem.length ≤ memCeil

/-- what the part before `execute` establishes for the instruction it hands over -/
theorem pre_execSafe {env : IEnv World} (hT : TableSafe env) (hE : EnvOK env) {s s1 : IState World} {i : Instr} (hinv : Inv s)
    (hpre : pre env s = .next (i, s1)) : ExecSafe env i s1 ∧ Inv s1 := by
  obtain ⟨row, hr, hd, h1, h2, h3, hdp⟩ := pre_next_inv hpre
  have hsafe := hT _ _ _ hr hd
  obtain ⟨hstk, _, _, _, _, _, _⟩ := dynPart_frame hdp
  simp only [rowSafe, Bool.and_eq_true, decide_eq_true_eq, beq_iff_eq, Bool.or_eq_true] at hsafe
  obtain ⟨⟨⟨⟨hp, _⟩, hdup⟩, hmem⟩, hdyn⟩ := hsafe
  have hpops : i.pops ≤ s1.stack.length := by rw [hstk]; simp; omega
  have hn : ∀ n, (i = .dup n ∨ i = .swap n) → 1 ≤ n := by
    intro n hi
    rcases hi with hi | hi <;> subst hi <;> simpa using hdup
  have hcovinv : Covered i s1 ∧ Inv s1 := by
    by_cases hname : memName i = "-"
    · constructor
      · intro msz ovf hms; rw [hname, memSizeOf_dash] at hms; cases hms
      · have := dynPart_nomem (by rw [hmem, hname]) hdp
        unfold Inv; rw [this]; exact hinv
    · have hmd : memDyn row := by simpa only [memDyn, hname, false_or, or_assoc] using hdyn
      obtain ⟨msz, hs, hl, hc, _⟩ := dynPart_memRow hmd (by rw [hmem]; exact hname) hdp hinv
      refine ⟨fun msz' ovf hms => ?_, hc⟩
      rw [hstk, ← hmem, hs] at hms; cases hms
      exact ⟨rfl, Nat.le_trans hl hc, hl⟩
  obtain ⟨hcov, hinv1⟩ := hcovinv
  exact ⟨exec_safe env hE i s1 hpops hn hcov hinv1, hinv1⟩

theorem pre_notPanic {env : IEnv World} (hT : TableSafe env) (s : IState World) : (pre env s).notPanic := by
  cases h : pre env s <;> try trivial
  obtain ⟨row, i, hr, hd, h1, hp⟩ := pre_out h
  have := dynPart_notPanic (op := opAt env.code s.pc) (s := { s with gas := s.gas - row.cgas }) (hT _ _ _ hr hd) h1
  rwa [hp] at this

/-- **One iteration never panics** and keeps the invariant: for every program, program counter, stack, memory content,
    gas, calldata, world and tracer, on every table that satisfies `rowSafe`. -/
theorem step_safe {env : IEnv World} (hT : TableSafe env) (hE : EnvOK env) (s : IState World) (hinv : Inv s) :
    (step env s).notPanic ∧ ∀ s', step env s = .next s' → Inv s' := by
  have hpn := pre_notPanic hT s
  unfold step stepWith
  split
  · obtain ⟨⟨hnp, hlen⟩, hinv1⟩ := pre_execSafe hT hE hinv ‹_›
    exact ⟨hnp, fun s' hs' => by unfold Inv; rw [(hlen s' hs').1]; exact hinv1⟩
  · exact ⟨trivial, nofun⟩
  · rename_i hp; rw [hp] at hpn; exact hpn.elim

/-- **C03 for the interpreter loop**: no run of any length panics -/
theorem run_safe {env : IEnv World} (hT : TableSafe env) (hE : EnvOK env) (n : Nat) (s : IState World) (hinv : Inv s) :
    (run env n s).notPanic :=
  run_inv (fun _ _ => trivial) (step_safe hT hE) n s hinv

theorem exec_stack {env : IEnv World} {i : Instr} {s s' : IState World} (h : exec env i s = .next s') :
    s'.stack.length + i.pops = s.stack.length + i.pushes := (exec_next h).stack

/-- the stack limit holds after every instruction -/
theorem step_stack_limit {env : IEnv World} (hL : TableLimit env) {s s' : IState World} (h : step env s = .next s') :
    s'.stack.length ≤ 1024 := by
  obtain ⟨row, i, s1, hr, hd, _, hmax, _, hdp, hex⟩ := step_next_inv h
  have hl := hL _ _ _ hr hd
  simp only [rowLimit, decide_eq_true_eq] at hl
  obtain ⟨hstk, _⟩ := dynPart_frame hdp
  have := exec_stack hex
  rw [hstk] at this
  simp at this
  omega

end Interp
end Artela
