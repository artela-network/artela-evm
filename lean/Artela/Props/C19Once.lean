import Artela.Props.C19
/-
  C19 (exactly once) — in the nested call tracer every call frame that has returned is listed exactly once, under a
  call frame or an Aspect frame, every frame still running is on the call stack exactly once, and every Aspect frame is
  listed exactly once under a call frame — for EVERY callback sequence, in either configuration.
-/
namespace Artela
open CallTracer

/-- occurrences of id `x` in the `proj` lists of an arena -/
def occ {α} (proj : α → List Nat) (l : List α) (x : Nat) : Nat := (l.flatMap proj).count x

theorem occ_nil {α} (proj : α → List Nat) (x : Nat) : occ proj [] x = 0 := rfl

theorem occ_cons {α} (proj : α → List Nat) (a : α) (l : List α) (x : Nat) : occ proj (a :: l) x = (proj a).count x + occ proj l x := by
  unfold occ; simp [List.flatMap_cons, List.count_append]

theorem occ_append {α} (proj : α → List Nat) (l m : List α) (x : Nat) : occ proj (l ++ m) x = occ proj l x + occ proj m x := by
  unfold occ; simp [List.flatMap_append, List.count_append]

theorem occ_modify {α} {proj : α → List Nat} {g : α → α} {ex : List Nat} (hg : ∀ y, proj (g y) = proj y ++ ex) :
    ∀ (l : List α) (i x : Nat), occ proj (l.modify i g) x = occ proj l x + if i < l.length then ex.count x else 0
  | [], i, x => by simp
  | a :: as, 0, x => by simp [occ_cons, hg]; omega
  | a :: as, i + 1, x => by simp [occ_cons, occ_modify hg as i x]; omega

theorem occ_modify_same {α} (proj : α → List Nat) (g : α → α) (hg : ∀ y, proj (g y) = proj y) :
    ∀ (l : List α) (i : Nat) (x : Nat), occ proj (l.modify i g) x = occ proj l x :=
  fun l i x => by simpa using occ_modify (ex := []) (by simpa using hg) l i x

theorem occ_modify_push {α} (proj : α → List Nat) (g : α → α) (c : Nat) (hg : ∀ y, proj (g y) = proj y ++ [c]) :
    ∀ (l : List α) (i : Nat) (x : Nat), i < l.length → occ proj (l.modify i g) x = occ proj l x + (if c = x then 1 else 0) :=
  fun l i x hi => by simpa [hi, List.count_singleton] using occ_modify hg l i x

/-- the accounting invariant of the nested tracer; `aspValid` is implied by `jps` (`Once.of`) -/
structure Once (st : TState) : Prop where
  tinv : TInv st
  aspValid : ∀ (i : Nat) (f : TFrame), st.frames[i]? = some f → ∀ a ∈ f.jps, a < st.aspects.length
  calls : ∀ x, occ (·.calls) st.frames x + occ (·.calls) st.aspects x + st.stack.count x = if x < st.frames.length then 1 else 0
  jps : ∀ a, occ (·.jps) st.frames a = if a < st.aspects.length then 1 else 0

theorem processCall_calls (f : TFrame) (o : Bytes) (e : Option String) : (processCall f o e).calls = f.calls := by
  unfold processCall
  cases e with
  | none => rfl
  | some x => simp only; split <;> rfl

theorem processAspect_calls (a : TAspect) (o : Bytes) (e : Option String) : (processAspect a o e).calls = a.calls := by
  unfold processAspect
  cases e with
  | none => rfl
  | some x => simp only; split <;> rfl

/-- `aspValid` follows from `jps`: an id that is listed is counted -/
theorem Once.of {st : TState} (tinv : TInv st)
    (calls : ∀ x, occ TFrame.calls st.frames x + occ TAspect.calls st.aspects x + st.stack.count x = if x < st.frames.length then 1 else 0)
    (jps : ∀ a, occ TFrame.jps st.frames a = if a < st.aspects.length then 1 else 0) : Once st := by
  refine ⟨tinv, fun i f hf a ha => ?_, calls, jps⟩
  have : 0 < occ TFrame.jps st.frames a := List.count_pos_iff.2 (List.mem_flatMap.2 ⟨f, List.mem_of_getElem? hf, ha⟩)
  rw [jps] at this
  split at this
  · assumption
  · cases this

theorem once_init_any (onlyTop : Bool) : Once { onlyTop := onlyTop } :=
  .of (tinv_init onlyTop) (fun x => by cases x <;> simp [occ]) (fun a => by simp [occ])

theorem once_init : Once {} := once_init_any false

theorem ite_lt_succ (x n : Nat) : (if x < n + 1 then 1 else 0) = (if x < n then 1 else 0) + if n = x then 1 else 0 := by
  split <;> split <;> split <;> omega

/-- a modification of frames that keeps `calls`, `jps` and `curJP` keeps the accounting -/
theorem once_modify (st : TState) (h : Once st) (k : Nat) (g : TFrame → TFrame)
    (hg : ∀ f, (g f).curJP = f.curJP ∧ (g f).jps = f.jps ∧ (g f).calls = f.calls) :
    Once { st with frames := st.frames.modify k g } :=
  .of (tinv_modify st h.tinv k g fun f => ⟨(hg f).1, (hg f).2.1⟩)
    (fun x => by simpa [occ_modify_same _ g fun y => (hg y).2.2] using h.calls x)
    (fun a => by simpa [occ_modify_same _ g fun y => (hg y).2.1] using h.jps a)

theorem aspValid_modify (frames : List TFrame) (n : Nat) (hv : ∀ (i : Nat) (f : TFrame), frames[i]? = some f → ∀ a ∈ f.jps, a < n)
    (k : Nat) (g : TFrame → TFrame) (hg : ∀ f, (g f).jps = f.jps) :
    ∀ (i : Nat) (f : TFrame), (frames.modify k g)[i]? = some f → ∀ a ∈ f.jps, a < n :=
  forall_getElem_opt_modify hv k fun f hf => by rw [hg]; exact hf

/-- in either configuration: with `onlyTop`, nested calls only move `depth` -/
theorem once_step_any (st : TState) (h : Once st) (ev : TEvent) :
    ∃ st', step st ev = .ok st' ∧ Once st' ∧ st'.onlyTop = st.onlyTop := by
  -- the invariant `TInv` of the new state comes from `c19_step_no_panic`; what is left is the two counts
  obtain ⟨st1, hs1, hi1⟩ := c19_step_no_panic st h.tinv ev
  refine ⟨st1, hs1, ?_⟩
  -- `h.calls`, `h.jps` with `(·.calls)` spelt `TFrame.calls`, as the `rw [occ_modify_*]` below produce it and `omega` needs it
  have hc : ∀ x, occ TFrame.calls st.frames x + occ TAspect.calls st.aspects x + st.stack.count x = _ := h.calls
  have hj : ∀ a, occ TFrame.jps st.frames a = _ := h.jps
  cases ev with
  | txStart g => cases hs1; exact ⟨⟨hi1, h.aspValid, hc, hj⟩, rfl⟩
  | txEnd rest => cases hs1; exact ⟨once_modify st h 0 _ fun f => ⟨rfl, rfl, rfl⟩, rfl⟩
  | start frm to create input gas value => cases hs1; exact ⟨once_modify st h 0 _ fun f => ⟨rfl, rfl, rfl⟩, rfl⟩
  | end_ output gasUsed err =>
    cases hs1
    exact ⟨once_modify st h 0 _ fun f => ⟨(processCall_keeps f output err).1, (processCall_keeps f output err).2, processCall_calls f output err⟩, rfl⟩
  | enter typ frm to input gas value =>
    simp only [step] at hs1
    split at hs1 <;> cases hs1
    · exact ⟨⟨hi1, h.aspValid, hc, hj⟩, rfl⟩
    refine ⟨.of hi1 (fun x => ?_) (fun a => ?_), rfl⟩
    · simp only [occ_append, occ_cons, occ_nil, List.count_nil, List.length_append, List.length_singleton, List.count_cons, beq_iff_eq, ite_lt_succ]
      have := hc x; omega
    · simpa [occ_append, occ_cons, occ_nil] using hj a
  | exit output gasUsed err =>
    -- `c` leaves the stack and is filed once: under the Aspect frame running on its parent `p`, else under `p`
    simp only [step] at hs1
    split at hs1
    · cases hs1; exact ⟨⟨hi1, h.aspValid, hc, hj⟩, rfl⟩
    split at hs1
    · cases hs1
    · cases hs1; exact ⟨h, rfl⟩
    · rename_i c p rest hst
      have hp := h.tinv.valid p (by simp [hst])
      have hg1 : ∀ f : TFrame, (processCall { f with gasUsed := gasUsed } output err).calls = f.calls := fun _ => processCall_calls _ _ _
      have hg2 : ∀ f : TFrame, (processCall { f with gasUsed := gasUsed } output err).jps = f.jps := fun _ => (processCall_keeps _ _ _).2
      have hg3 : ∀ f : TFrame, ({ f with calls := f.calls ++ [c] } : TFrame).jps = f.jps := fun _ => rfl
      rw [hst] at hc
      split at hs1
      · cases hs1
      · rename_i pf hpf
        split at hs1
        · split at hs1
          · cases hs1
          · rename_i a hl
            have ha := h.aspValid p pf hpf a (List.mem_of_getLast? hl)
            cases hs1
            refine ⟨.of hi1 (fun x => ?_) (fun a' => ?_), rfl⟩
            · have := hc x
              dsimp only
              rw [occ_modify_same _ _ hg1, occ_modify_push TAspect.calls _ c (fun _ => rfl) _ _ _ ha]
              simp only [List.length_modify, List.count_cons, beq_iff_eq] at this ⊢
              omega
            · dsimp only; rw [occ_modify_same _ _ hg2, List.length_modify]; exact hj a'
        · cases hs1
          refine ⟨.of hi1 (fun x => ?_) (fun a' => ?_), rfl⟩
          · have := hc x
            dsimp only
            rw [occ_modify_push TFrame.calls _ c (fun _ => rfl) _ _ _ (by simpa using hp), occ_modify_same _ _ hg1]
            simp only [List.length_modify, List.count_cons, beq_iff_eq] at this ⊢
            omega
          · dsimp only; rw [occ_modify_same _ _ hg3, occ_modify_same _ _ hg2]; exact hj a'
  | aspectEnter jp frm to aspect input gas value =>
    simp only [step] at hs1
    split at hs1
    · cases hs1; exact ⟨h, rfl⟩
    split at hs1
    · cases hs1
    · rename_i last rest hst
      have hlast := h.tinv.valid last (by simp [hst])
      have hg : ∀ f : TFrame, ({ f with jps := f.jps ++ [st.aspects.length], curJP := if jp = 0 then none else some jp } : TFrame).calls = f.calls :=
        fun _ => rfl
      cases hs1
      refine ⟨.of hi1 (fun x => ?_) (fun a => ?_), rfl⟩ <;> dsimp only
      · rw [occ_modify_same _ _ hg, occ_append, occ_cons, occ_nil, List.length_modify]; exact hc x
      · rw [occ_modify_push TFrame.jps _ _ (fun _ => rfl) _ _ _ hlast, List.length_append, List.length_singleton, ite_lt_succ, hj a]
  | aspectExit jp gasLeft ret err =>
    simp only [step] at hs1
    split at hs1
    · cases hs1; exact ⟨h, rfl⟩
    split at hs1
    · cases hs1
    · have hg1 : ∀ f : TFrame, ({ f with curJP := none } : TFrame).calls = f.calls := fun _ => rfl
      have hg2 : ∀ f : TFrame, ({ f with curJP := none } : TFrame).jps = f.jps := fun _ => rfl
      have hg3 : ∀ x : TAspect, (processAspect { x with gasUsed := (x.gas + U64 - gasLeft % U64) % U64 } ret err).calls = x.calls :=
        fun _ => processAspect_calls _ _ _
      split at hs1 <;> cases hs1 <;> refine ⟨.of hi1 (fun x => ?_) (fun a => ?_), rfl⟩ <;> dsimp only
      · rw [occ_modify_same _ _ hg1, List.length_modify]; exact hc x
      · rw [occ_modify_same _ _ hg2]; exact hj a
      · rw [occ_modify_same _ _ hg1, occ_modify_same _ _ hg3, List.length_modify]; exact hc x
      · rw [occ_modify_same _ _ hg2, List.length_modify]; exact hj a

theorem once_step (st : TState) (h : Once st) (hno : st.onlyTop = false) (ev : TEvent) :
    ∃ st', step st ev = .ok st' ∧ Once st' ∧ st'.onlyTop = false :=
  let ⟨st', hs, ho, ht⟩ := once_step_any st h ev
  ⟨st', hs, ho, ht.trans hno⟩

theorem c19_accounting_any (onlyTop : Bool) (evs : List TEvent) : ∃ st', run { onlyTop := onlyTop } evs = .ok st' ∧ Once st' :=
  run_ok_of_step (fun st h ev => let ⟨st', hs, ho, _⟩ := once_step_any st h ev; ⟨st', hs, ho⟩) evs _ (once_init_any onlyTop)

/-- **C19, exactly once, every callback sequence** (default configuration): the accounting invariant holds after any
    sequence of callbacks, well nested or not -/
theorem c19_accounting (evs : List TEvent) : ∃ st', run {} evs = .ok st' ∧ Once st' :=
  c19_accounting_any false evs

/-- so, once every call has returned (only the transaction's own frame is on the stack): every other call frame is
    listed exactly once — under a call frame or under an Aspect frame, never both, never twice —, the transaction's
    frame is listed nowhere, and every Aspect frame is listed exactly once under a call frame -/
theorem c19_every_frame_exactly_once (evs : List TEvent) (st' : TState) (h : run {} evs = .ok st') (hs : st'.stack = [0]) :
    (∀ x, 0 < x → x < st'.frames.length → occ (·.calls) st'.frames x + occ (·.calls) st'.aspects x = 1) ∧
    (occ (·.calls) st'.frames 0 + occ (·.calls) st'.aspects 0 = 0) ∧
    (∀ a, a < st'.aspects.length → occ (·.jps) st'.frames a = 1) ∧
    (∀ x, st'.frames.length ≤ x → occ (·.calls) st'.frames x + occ (·.calls) st'.aspects x = 0) := by
  obtain ⟨st2, h2, hi⟩ := c19_accounting evs
  cases h.symm.trans h2
  have hlen : 0 < st'.frames.length := hi.tinv.valid 0 (by simp [hs])
  have hc : ∀ x, occ (·.calls) st'.frames x + occ (·.calls) st'.aspects x + (if 0 = x then 1 else 0) = if x < st'.frames.length then 1 else 0 := by
    simpa [hs, List.count_singleton] using hi.calls
  refine ⟨fun x hx0 hxl => ?_, ?_, fun a ha => by simpa [ha] using hi.jps a, fun x hx => ?_⟩
  · have := hc x; rw [if_neg (by omega), if_pos hxl] at this; exact this
  · have := hc 0; rw [if_pos rfl, if_pos hlen] at this; omega
  · have := hc x; rw [if_neg (by omega), if_neg (by omega)] at this; exact this

/-- non-vacuity: the stream of the C19 example (two Aspects on one join point, a call from inside the second) ends with
    the stack at rest, so the theorem applies to it -/
example :
    (match run {} [ .txStart 100, .start 1 2 false [] 90 (some 0), .aspectEnter 4 1 2 0xa1 [] 50 none, .aspectExit 4 40 [1] none,
                    .aspectEnter 4 1 2 0xa2 [] 30 none, .enter "CALL" 0xa2 3 [] 10 (some 0), .exit [] 5 none, .aspectExit 4 10 [2] (some "x"),
                    .end_ [] 60 none, .txEnd 20 ] with
     | .ok st => st.stack == [0] && st.frames.length == 2 && st.aspects.length == 2
     | _ => false) = true := by decide +kernel

end Artela
