import Artela.Proofs.McopyStep
import Artela.Proofs.ArenaKit
import Artela.Proofs.GenFacts
/-
  C15 — Cancun additions behave per EIP-1153 and EIP-5656.

  Specification side (EIP-5656), stated without machine arithmetic: `memmoveSpec`, `mcopyNewLen`, `mcopyCost`.
  Model side: `mcopyStep` (Model/Memory.lean), one interpreter step with exact uint64 arithmetic.
-/
namespace Artela

def ceil32 (n : Nat) : Nat := (n + 31) / 32 * 32

/-- EIP-5656 memory size after the instruction -/
def mcopyNewLen (memLen dst src len : Nat) : Nat :=
  if len = 0 then memLen else max memLen (ceil32 (max dst src + len))

/-- zero-extended memory -/
def zeroExt (m : Bytes) (n : Nat) : Bytes := m ++ List.replicate (n - m.length) 0

/-- overlap-safe memmove, pointwise: byte `i` of the result -/
def memmoveSpec (m : Bytes) (dst src len : Nat) (i : Nat) : Option UInt8 :=
  if dst ≤ i ∧ i < dst + len then m[src + (i - dst)]? else m[i]?

/-- EIP-5656 gas: 3 + 3·⌈len/32⌉ + Cmem(new) − Cmem(old) -/
def mcopyCost (oldLen newLen len : Nat) : Nat :=
  3 + 3 * ((len + 31) / 32) + (memFee (newLen / 32) - memFee (oldLen / 32))

/-- interpreter invariant on memory: word-aligned, fee cache in sync, below the gas cap -/
structure MemState.Inv (m : MemState) : Prop where
  aligned : m.store.length % 32 = 0
  fee     : m.lastGasCost = memFee (m.store.length / 32)
  small   : m.store.length ≤ 0x1FFFFFFFE0

theorem expand_zeroExt (s : Bytes) (size : Nat) : expand s size = zeroExt s (max s.length size) := by
  unfold expand zeroExt
  by_cases c : size > 0 ∧ s.length < size
  · rw [if_pos c, Nat.max_eq_right (Nat.le_of_lt c.2)]
  · rw [if_neg c, Nat.max_eq_left (by omega), Nat.sub_self, List.replicate_zero, List.append_nil]

theorem expand_eq_zeroExt (s : Bytes) (W : Nat) (h : s.length ≤ max s.length (W * 32)) :
    expand s (W * 32) = zeroExt s (max s.length (W * 32)) :=
  expand_zeroExt s (W * 32)

theorem zeroExt_length (s : Bytes) {n : Nat} (h : s.length ≤ n) : (zeroExt s n).length = n := by
  rw [zeroExt, List.length_append, List.length_replicate]; omega

theorem mcopyNewLen_pos {L dst src len n : Nat} (hal : L % 32 = 0) (hsm : L ≤ 0x1FFFFFFFE0) (hl : 0 < len)
    (hr : max dst src + len ≤ 0x1FFFFFFFE0) (hn : mcopyNewLen L dst src len = n) :
    n = max L ((max dst src + len + 31) / 32 * 32) ∧ L ≤ n ∧ dst + len ≤ n ∧ src + len ≤ n ∧ n % 32 = 0 ∧ n ≤ 0x1FFFFFFFE0 := by
  have hd : dst + len ≤ max dst src + len := Nat.add_le_add_right (Nat.le_max_left _ _) _
  have hs : src + len ≤ max dst src + len := Nat.add_le_add_right (Nat.le_max_right _ _) _
  obtain ⟨hxW, hWc⟩ := words_cap hr
  have hWn := Nat.le_max_right L ((max dst src + len + 31) / 32 * 32)
  rw [mcopyNewLen, if_neg (Nat.ne_of_gt hl), ceil32] at hn
  subst hn
  exact ⟨rfl, Nat.le_max_left _ _, Nat.le_trans hd (Nat.le_trans hxW hWn), Nat.le_trans hs (Nat.le_trans hxW hWn),
    (max_aligned hal).2, Nat.max_le.2 ⟨hsm, hWc⟩⟩

/-- MCOPY of a positive length that ends below the gas cap, as one equation in the EIP's terms -/
theorem mcopyStep_eip (m : MemState) (hinv : m.Inv) (gas : Nat) (dst src len : Word) (hl : 0 < len)
    (hr : max dst src + len ≤ 0x1FFFFFFFE0) :
    mcopyStep m gas dst src len =
      (let n := mcopyNewLen m.store.length dst src len
       let s := zeroExt m.store n
       if gas < mcopyCost m.store.length n len then .err "out of gas"
       else .ok ({ store := s.take dst ++ s.extract src (src + len) ++ s.drop (dst + len), lastGasCost := memFee (n / 32) },
                 mcopyCost m.store.length n len)) := by
  obtain ⟨hal, hfee, hsm⟩ := hinv
  have hU := U64_eq
  have hM := maxU64_eq
  obtain ⟨hn, hLn, hd, hs, -, hnc⟩ := mcopyNewLen_pos hal hsm hl hr rfl
  have hsize := memoryMcopy_inside hl (show max dst src + len < U64 by omega)
  have hwords := toWordSize_small (max dst src + len) (by omega)
  -- the machine expands memory to the `W` words that reach the end of the larger range; the EIP's new size `n` is as many bytes,
  -- or the old size
  generalize (max dst src + len + 31) / 32 = W at *
  have hWn : W * 32 ≤ mcopyNewLen m.store.length dst src len := hn ▸ Nat.le_max_right _ _
  have hz : expand m.store (W * 32) = zeroExt m.store (mcopyNewLen m.store.length dst src len) :=
    hn ▸ expand_zeroExt m.store (W * 32)
  have hq : mcopyNewLen m.store.length dst src len / 32 = max (m.store.length / 32) W := hn ▸ (max_aligned hal).1
  dsimp only
  rw [mcopyCost, hq]
  -- for the omega calls below: `hn`, `hq` tie `n` to `max … (W * 32)` and `hr` holds another `max`, each a case split
  clear hq hn hr
  generalize mcopyNewLen m.store.length dst src len = n at *
  have hsl : (zeroExt m.store n).length = n := zeroExt_length m.store hLn
  obtain ⟨hd64, hs64, hl64, hn64, hlc, hWc⟩ :
      dst < U64 ∧ src < U64 ∧ len < U64 ∧ n < U64 ∧ len ≤ 0x1FFFFFFFE0 ∧ W * 32 ≤ 0x1FFFFFFFE0 := by omega
  unfold expand at hz
  unfold mcopyStep
  rw [hsize]
  dsimp only
  rw [if_neg (by decide), hwords, if_neg (by omega), hfee, gasMcopy_synced hsm hWc hlc]
  dsimp only
  rw [Nat.mod_eq_of_lt hd64, Nat.mod_eq_of_lt hs64, Nat.mod_eq_of_lt hl64, hz,
    memCopyGo_inside _ dst src len hl (by rw [hsl]; exact hd) (by rw [hsl]; exact hs) (by rw [hsl]; exact hn64),
    gas_checks, show ∀ a b : Nat, 3 + (a + b * 3) = 3 + 3 * b + a by omega]

/-- **MCOPY is memmove with the EIP's size and gas**: whenever the step succeeds, for every `dst`, `src`, `len`
    (overlapping, adjacent, zero-length …) the new memory has the EIP's size, every byte is the memmove of the
    zero-extended old memory, the cost is the EIP's, and the invariant is kept. -/
theorem c15_mcopy_spec (m : MemState) (hinv : m.Inv) (gas : Nat) (dst src len : Word) (m' : MemState) (cost : Nat)
    (h : mcopyStep m gas dst src len = .ok (m', cost)) :
    m'.store.length = mcopyNewLen m.store.length dst src len ∧
    (∀ i, i < m'.store.length → m'.store[i]? = memmoveSpec (zeroExt m.store m'.store.length) dst src len i) ∧
    cost = mcopyCost m.store.length m'.store.length len ∧
    m'.Inv := by
  by_cases hl : len = 0
  · subst hl
    rw [mcopyStep_zero] at h
    split at h
    · cases h
    · cases h
      refine ⟨by rw [mcopyNewLen, if_pos rfl], fun i hi => ?_, ?_, hinv⟩
      · rw [memmoveSpec, if_neg (by omega), zeroExt, Nat.sub_self, List.replicate_zero, List.append_nil]
      · rw [mcopyCost, Nat.sub_self]
  · by_cases hr : max dst src + len ≤ 0x1FFFFFFFE0
    · rw [mcopyStep_eip m hinv gas dst src len (by omega) hr] at h
      obtain ⟨-, hLn, hd, hs, hal, hnc⟩ := mcopyNewLen_pos hinv.aligned hinv.small (by omega) hr rfl
      generalize mcopyNewLen m.store.length dst src len = n at *
      have hsl := zeroExt_length m.store hLn
      dsimp only at h
      split at h
      · cases h
      · cases h
        have hlen := (memmove_length (zeroExt m.store n) dst src len (by rw [hsl]; exact hd) (by rw [hsl]; exact hs)).trans hsl
        refine ⟨hlen, fun i _ => ?_, by rw [hlen], ⟨by rw [hlen]; exact hal, by rw [hlen], by rw [hlen]; exact hnc⟩⟩
        rw [hlen]
        exact memmove_pointwise _ dst src len (by rw [hsl]; exact hd) (by rw [hsl]; exact hs) i
    · obtain ⟨e, he⟩ := mcopyStep_out_of_range m gas dst src len (by omega) (by omega)
      rw [he] at h; cases h

/-- MCOPY never panics: for every memory satisfying the interpreter invariant, every gas and every operand triple
    (including operands ≥ 2^64 and sums that wrap) the step returns a state or an out-of-gas-class error. -/
theorem c15_mcopy_no_panic (m : MemState) (hinv : m.Inv) (gas : Nat) (dst src len : Word) :
    (mcopyStep m gas dst src len).isPanic = false := by
  by_cases hl : len = 0
  · subst hl; rw [mcopyStep_zero]; split <;> rfl
  · by_cases hr : max dst src + len ≤ 0x1FFFFFFFE0
    · rw [mcopyStep_eip m hinv gas dst src len (by omega) hr]
      dsimp only
      split <;> rfl
    · obtain ⟨e, he⟩ := mcopyStep_out_of_range m gas dst src len (by omega) (by omega)
      rw [he]; rfl

/-- out-of-range operands with non-zero length fail in the out-of-gas class (no partial copy) -/
theorem c15_mcopy_out_of_range (m : MemState) (gas : Nat) (dst src len : Word) (hl : 0 < len)
    (h : dst ≥ U64 ∨ src ≥ U64 ∨ len ≥ U64 ∨ max dst src + len ≥ U64) : ∃ e, mcopyStep m gas dst src len = .err e := by
  have hU := U64_eq
  exact mcopyStep_out_of_range m gas dst src len hl (by omega)

/-- zero length is a no-op costing 3 gas even with absurd offsets -/
theorem c15_mcopy_zero_length (m : MemState) (gas : Nat) (dst src : Word) (hg : 3 ≤ gas) :
    mcopyStep m gas dst src 0 = .ok (m, 3) := by
  rw [mcopyStep_zero, if_neg (by omega)]

/-- TSTORE in a read-only (static) frame returns the write-protection error before touching the store -/
theorem c15_tstore_static (t : Transient) (addr : Addr) (k v : Word) : tstore t true addr k v = .error "write protection" := rfl

/-- a successful TSTORE is read back by TLOAD at the same address and key, and no other (address, key) changes -/
theorem c15_tstore_tload (t t' : Transient) (addr : Addr) (k v : Word) (h : tstore t false addr k v = .ok t') :
    tload t' addr k = v ∧ ∀ a' k', (a', k') ≠ (addr, k) → tload t' a' k' = tload t a' k' := by
  cases h
  exact ⟨by rw [tload, alookup_aset_same]; rfl, fun a' k' hne => by rw [tload, tload, alookup_aset_other _ _ _ hne]⟩

/-- a frame that ends in failure (exceptional halt or REVERT) leaves transient storage exactly as at its entry,
    whatever it and its descendants stored: the caller continues on the entry state -/
theorem c15_transient_reverts (fuel : Nat) (sa : Addr) (ro : Bool) (kind : TKind) (target : Addr) (body rest : List TOp)
    (t : Transient) (obs : List TObs) :
    runTOps (fuel + 1) sa ro (.sub kind target body true :: rest) t obs =
      runTOps fuel sa ro rest t
        ((runTOps fuel (match kind with | .call | .static => target | .delegate | .callcode => sa) (ro || (kind == .static)) body t obs).2.2 ++ [.flag false]) := by
  simp only [runTOps]
  generalize runTOps fuel (match kind with | .call | .static => target | .delegate | .callcode => sa) (ro || (kind == .static)) body t obs = r
  obtain ⟨ok, t', obs'⟩ := r
  cases ok <;> simp

/-- fork gate and fees, regenerated from the running code -/
theorem c15_fork_gate :
    Gen.forkCancun.filter cancunOps = [⟨0x5c, "opTload", "-", "-", 100, 1, 1024⟩, ⟨0x5d, "opTstore", "-", "-", 100, 2, 1026⟩,
      ⟨0x5e, "opMcopy", "memoryCopierGas", "memoryMcopy", 3, 3, 1027⟩] ∧
    Gen.forkShanghai.filter cancunOps = [] ∧ Gen.forkLondon.filter cancunOps = [] ∧ Gen.forkBerlin.filter cancunOps = [] ∧
    Gen.forkFrontier.filter cancunOps = [] :=
  ⟨cancun_rows, pre_cancun_undefined_Shanghai, pre_cancun_undefined_London, pre_cancun_undefined_Berlin, pre_cancun_undefined_Frontier⟩

/-- an overlapping forward copy inside 64 bytes of memory: dst=1, src=0, len=33 expands to 64 bytes -/
example :
    let m : MemState := { store := List.replicate 32 7, lastGasCost := memFee 1 }
    (match mcopyStep m 1000 1 0 33 with
     | .ok (m', cost) => m'.store.length == 64 && cost == 3 + 3 * 2 + (memFee 2 - memFee 1) && m'.store.take 3 == [7, 7, 7] && m'.store[33]? == some 0
     | _ => false) = true := by decide +kernel

example : ({ store := List.replicate 32 7, lastGasCost := memFee 1 } : MemState).Inv :=
  ⟨by decide, by decide, by decide⟩

end Artela
