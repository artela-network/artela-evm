import Artela.Proofs.InterpTable
import Artela.Proofs.GenFacts
import Artela.Props.InterpAbort
import Artela.Props.InterpJournal
import Artela.Props.InterpWork
/-
  The hypotheses of the interpreter-loop theorems, discharged for every instruction table extracted from the running
  code (13 forks and 9 extra-EIP variants), and the theorems restated for those tables.
-/
namespace Artela
namespace Interp
variable {World : Type}

/-- every modelled row of the list satisfies the safety, payment, stack-limit and work conditions -/
def rowsOK (rows : List Gen.OpRow) : Bool :=
  rows.all fun r =>
    match decode r.exec r.op with
    | none => true
    | some i => rowSafe (toRow r) i && paysRow (toRow r) i && rowLimit (toRow r) i && rowWork (toRow r) i

/-- byte 0 is STOP -/
def stopOK (rows : List Gen.OpRow) : Bool :=
  rows.all fun r => r.op != 0 || decode r.exec 0 == some .stop

/-- no row of the list is a journal instruction -/
def stdOK (rows : List Gen.OpRow) : Bool :=
  rows.all fun r => match decode r.exec r.op with | some i => !i.isJournal | none => true

theorem tableOf_some {rows : List Gen.OpRow} {op : Nat} {row : Row} (h : tableOf rows op = some row) :
    ∃ r, r ∈ rows ∧ r.op = op ∧ toRow r = row := by
  unfold tableOf at h
  obtain ⟨r, hf, h⟩ := Option.map_eq_some_iff.mp h
  exact ⟨r, List.mem_of_find?_eq_some hf, by simpa using List.find?_some hf, h⟩

/-- What holds of every decodable row of a list holds of every decodable entry of its table function: the shape shared by
    `TableSafe`, `TablePays`, `TableLimit`, `TableWork` and `StdTable`. -/
theorem tableOf_forall {P : Row → Instr → Prop} {rows : List Gen.OpRow}
    (h : ∀ r ∈ rows, ∀ i, decode r.exec r.op = some i → P (toRow r) i) {env : IEnv World} (he : env.table = tableOf rows) :
    ∀ op row i, env.table op = some row → decode row.exec op = some i → P row i := by
  intro op row i hr hd
  obtain ⟨r, hm, rfl, rfl⟩ := tableOf_some (he ▸ hr)
  exact h r hm i hd

theorem rowsOK_sound {rows : List Gen.OpRow} (h : rowsOK rows = true) {env : IEnv World} (he : env.table = tableOf rows) :
    TableSafe env ∧ TablePays env ∧ TableLimit env ∧ TableWork env := by
  have key := tableOf_forall
    (P := fun row i => ((rowSafe row i = true ∧ paysRow row i = true) ∧ rowLimit row i = true) ∧ rowWork row i = true)
    (fun r hm i hd => by simpa [hd] using List.all_eq_true.mp h r hm) he
  exact ⟨fun op row i hr hd => (key op row i hr hd).1.1.1, fun op row i hr hd => (key op row i hr hd).1.1.2,
         fun op row i hr hd => (key op row i hr hd).1.2, fun op row i hr hd => (key op row i hr hd).2⟩

theorem stopOK_sound {rows : List Gen.OpRow} (h : stopOK rows = true) {env : IEnv World} (he : env.table = tableOf rows) :
    StopAtEnd env := by
  intro row hr
  obtain ⟨r, hm, hop, rfl⟩ := tableOf_some (he ▸ hr)
  have := List.all_eq_true.mp h r hm
  simp only [Bool.or_eq_true, bne_iff_ne, ne_eq, beq_iff_eq] at this
  exact .inl (this.resolve_left (· hop))

/-! ### every extracted table satisfies the conditions (regenerated facts, closed by evaluation in the kernel) -/

-- All 22 tables and all three checks (`rowsOK`, `stopOK`, `stdOK`) in one evaluation: the kernel remembers what a row decodes to, and the tables share
-- nearly all their rows, so the whole costs little more than one table (a table on its own costs as much as all together).
theorem extracted_facts : ∀ rows ∈ extractedTables,
    rowsOK rows = true ∧ stopOK rows = true ∧ stdOK (rows.filter notJournal) = true := by decide +kernel

theorem extracted_ok : ∀ rows ∈ extractedTables, rowsOK rows = true ∧ stopOK rows = true :=
  fun rows h => ⟨(extracted_facts rows h).1, (extracted_facts rows h).2.1⟩

theorem rows_ok_Frontier : rowsOK Gen.forkFrontier = true ∧ stopOK Gen.forkFrontier = true := extracted_ok _ (by simp [extractedTables])
theorem rows_ok_Homestead : rowsOK Gen.forkHomestead = true ∧ stopOK Gen.forkHomestead = true := extracted_ok _ (by simp [extractedTables])
theorem rows_ok_TangerineWhistle : rowsOK Gen.forkTangerineWhistle = true ∧ stopOK Gen.forkTangerineWhistle = true := extracted_ok _ (by simp [extractedTables])
theorem rows_ok_SpuriousDragon : rowsOK Gen.forkSpuriousDragon = true ∧ stopOK Gen.forkSpuriousDragon = true := extracted_ok _ (by simp [extractedTables])
theorem rows_ok_Byzantium : rowsOK Gen.forkByzantium = true ∧ stopOK Gen.forkByzantium = true := extracted_ok _ (by simp [extractedTables])
theorem rows_ok_Constantinople : rowsOK Gen.forkConstantinople = true ∧ stopOK Gen.forkConstantinople = true := extracted_ok _ (by simp [extractedTables])
theorem rows_ok_Petersburg : rowsOK Gen.forkPetersburg = true ∧ stopOK Gen.forkPetersburg = true := extracted_ok _ (by simp [extractedTables])
theorem rows_ok_Istanbul : rowsOK Gen.forkIstanbul = true ∧ stopOK Gen.forkIstanbul = true := extracted_ok _ (by simp [extractedTables])
theorem rows_ok_Berlin : rowsOK Gen.forkBerlin = true ∧ stopOK Gen.forkBerlin = true := extracted_ok _ (by simp [extractedTables])
theorem rows_ok_London : rowsOK Gen.forkLondon = true ∧ stopOK Gen.forkLondon = true := extracted_ok _ (by simp [extractedTables])
theorem rows_ok_Merge : rowsOK Gen.forkMerge = true ∧ stopOK Gen.forkMerge = true := extracted_ok _ (by simp [extractedTables])
theorem rows_ok_Shanghai : rowsOK Gen.forkShanghai = true ∧ stopOK Gen.forkShanghai = true := extracted_ok _ (by simp [extractedTables])
theorem rows_ok_Cancun : rowsOK Gen.forkCancun = true ∧ stopOK Gen.forkCancun = true := extracted_ok _ (by simp [extractedTables])
theorem rows_ok_IstanbulEip2929 : rowsOK Gen.forkIstanbulEip2929 = true ∧ stopOK Gen.forkIstanbulEip2929 = true := extracted_ok _ (by simp [extractedTables])
theorem rows_ok_BerlinEip3198 : rowsOK Gen.forkBerlinEip3198 = true ∧ stopOK Gen.forkBerlinEip3198 = true := extracted_ok _ (by simp [extractedTables])
theorem rows_ok_LondonEip3855 : rowsOK Gen.forkLondonEip3855 = true ∧ stopOK Gen.forkLondonEip3855 = true := extracted_ok _ (by simp [extractedTables])
theorem rows_ok_LondonEip3860 : rowsOK Gen.forkLondonEip3860 = true ∧ stopOK Gen.forkLondonEip3860 = true := extracted_ok _ (by simp [extractedTables])
theorem rows_ok_ConstantinopleEip1344 : rowsOK Gen.forkConstantinopleEip1344 = true ∧ stopOK Gen.forkConstantinopleEip1344 = true := extracted_ok _ (by simp [extractedTables])
theorem rows_ok_ConstantinopleEip1884 : rowsOK Gen.forkConstantinopleEip1884 = true ∧ stopOK Gen.forkConstantinopleEip1884 = true := extracted_ok _ (by simp [extractedTables])
theorem rows_ok_ConstantinopleEip2200 : rowsOK Gen.forkConstantinopleEip2200 = true ∧ stopOK Gen.forkConstantinopleEip2200 = true := extracted_ok _ (by simp [extractedTables])
theorem rows_ok_ShanghaiEip1153 : rowsOK Gen.forkShanghaiEip1153 = true ∧ stopOK Gen.forkShanghaiEip1153 = true := extracted_ok _ (by simp [extractedTables])
theorem rows_ok_ShanghaiEip5656 : rowsOK Gen.forkShanghaiEip5656 = true ∧ stopOK Gen.forkShanghaiEip5656 = true := extracted_ok _ (by simp [extractedTables])

/-- `tableByName` only ever answers with one of them (or the empty table for an unknown name): the theorems below cover every
    table the driver can be asked for -/
theorem tableByName_extracted (n : String) : Gen.tableByName n ∈ extractedTables ∨ Gen.tableByName n = [] := by
  suffices h : ∀ P : List Gen.OpRow → Prop, (∀ t ∈ extractedTables, P t) → P [] → P (Gen.tableByName n) from
    h (fun t => t ∈ extractedTables ∨ t = []) (fun _ => Or.inl) (Or.inr rfl)
  -- with the goal as `P (tableByName n)` for a variable `P`, the `if` chain is peeled by one lemma about `P (if c then a else b)`
  intro P h h0
  have ite : ∀ {c : Prop} [Decidable c] {a b}, P a → P b → P (if c then a else b) := by intros; split <;> assumption
  unfold Gen.tableByName
  repeat' apply ite
  all_goals first | exact h0 | exact h _ (by simp [extractedTables])

/-! ### the loop theorems on the code's own tables -/

/-- **C03 (interpreter loop)**: on every instruction table of the running code, for every program, calldata, stack,
    memory content below the gas schedule's ceiling, gas, world and tracer, a run of any length never panics. -/
theorem interp_never_panics (rows : List Gen.OpRow) (hr : rows ∈ extractedTables) (env : IEnv World)
    (he : env.table = tableOf rows) (hE : EnvOK env) (n : Nat) (s : IState World) (hinv : Inv s) :
    (run env n s).notPanic :=
  run_safe (rowsOK_sound (extracted_ok rows hr).1 he).1 hE n s hinv

/-- **C20 (interpreter loop)**: on every table of the running code a frame executes at most `gas + 1` instructions -/
theorem interp_work_bounded_by_gas (rows : List Gen.OpRow) (hr : rows ∈ extractedTables) (env : IEnv World)
    (he : env.table = tableOf rows) (n : Nat) (s : IState World) (hn : s.gas < n) : ∀ s', run env n s ≠ .next s' :=
  run_halts_within_gas (rowsOK_sound (extracted_ok rows hr).1 he).2.1 n s hn

/-- the stack never exceeds 1024 items after an instruction -/
theorem interp_stack_limit (rows : List Gen.OpRow) (hr : rows ∈ extractedTables) (env : IEnv World)
    (he : env.table = tableOf rows) {s s' : IState World} (h : step env s = .next s') : s'.stack.length ≤ 1024 :=
  step_stack_limit (rowsOK_sound (extracted_ok rows hr).1 he).2.2.1 h

/-- **C20 (interpreter loop), work**: on every table of the running code, a frame whose memory is whole words with the fee for them recorded (`MemInv`; empty memory is one) and that has `g` gas
    performs — over any number `n` of iterations — at most `2·g + n` word operations (memory allocated and zeroed, bytes copied,
    EXP multiplications, all in 32-byte words); with `interp_work_bounded_by_gas` (`n ≤ g + 1` iterations) at most `3·g + 1`. -/
theorem interp_work_per_gas (rows : List Gen.OpRow) (hr : rows ∈ extractedTables) (env : IEnv World)
    (he : env.table = tableOf rows) (hE : EnvOK env) (n : Nat) (s : IState World) (hI : MemInv s) (hinv : Inv s) :
    runWork env n s ≤ 2 * s.gas + n :=
  let h := rowsOK_sound (extracted_ok rows hr).1 he
  run_work h.1 h.2.1 h.2.2.2 hE n s hI hinv

/-- **C17 (interpreter loop)**: with the abort flag set, a frame stops within `|code| - pc + 1` instructions -/
theorem interp_cancel_stops (rows : List Gen.OpRow) (hr : rows ∈ extractedTables) (env : IEnv World)
    (he : env.table = tableOf rows) (ha : env.abort = true) (n : Nat) (s : IState World)
    (hn : env.code.length - s.pc < n) : ∀ s', run env n s ≠ .next s' :=
  run_abort_halts ha (stopOK_sound (extracted_ok rows hr).2 he) n s hn

/-! ### C01 at the loop level: on go-ethereum's own tables the Artela tracer is invisible -/

theorem stdOK_sound {rows : List Gen.OpRow} (h : stdOK rows = true) {env : IEnv World} (he : env.table = tableOf rows) : StdTable env :=
  tableOf_forall (fun r hm i hd => by simpa [hd] using List.all_eq_true.mp h r hm) he

-- go-ethereum's table is the fork's without the journal rows (`tables_agree_*`), and outside them the fork's has no journal instruction
theorem std_ok_Frontier : stdOK Gen.upFrontier = true := tables_agree_Frontier ▸ (extracted_facts _ (by simp [extractedTables])).2.2
theorem std_ok_Homestead : stdOK Gen.upHomestead = true := tables_agree_Homestead ▸ (extracted_facts _ (by simp [extractedTables])).2.2
theorem std_ok_TangerineWhistle : stdOK Gen.upTangerineWhistle = true := tables_agree_TangerineWhistle ▸ (extracted_facts _ (by simp [extractedTables])).2.2
theorem std_ok_SpuriousDragon : stdOK Gen.upSpuriousDragon = true := tables_agree_SpuriousDragon ▸ (extracted_facts _ (by simp [extractedTables])).2.2
theorem std_ok_Byzantium : stdOK Gen.upByzantium = true := tables_agree_Byzantium ▸ (extracted_facts _ (by simp [extractedTables])).2.2
theorem std_ok_Constantinople : stdOK Gen.upConstantinople = true := tables_agree_Constantinople ▸ (extracted_facts _ (by simp [extractedTables])).2.2
theorem std_ok_Petersburg : stdOK Gen.upPetersburg = true := tables_agree_Petersburg ▸ (extracted_facts _ (by simp [extractedTables])).2.2
theorem std_ok_Istanbul : stdOK Gen.upIstanbul = true := tables_agree_Istanbul ▸ (extracted_facts _ (by simp [extractedTables])).2.2
theorem std_ok_Berlin : stdOK Gen.upBerlin = true := tables_agree_Berlin ▸ (extracted_facts _ (by simp [extractedTables])).2.2
theorem std_ok_London : stdOK Gen.upLondon = true := tables_agree_London ▸ (extracted_facts _ (by simp [extractedTables])).2.2
theorem std_ok_Merge : stdOK Gen.upMerge = true := tables_agree_Merge ▸ (extracted_facts _ (by simp [extractedTables])).2.2
theorem std_ok_Shanghai : stdOK Gen.upShanghai = true := tables_agree_Shanghai ▸ (extracted_facts _ (by simp [extractedTables])).2.2

theorem upstream_std : ∀ rows ∈ upstreamTables, stdOK rows = true := by
  simp only [upstreamTables, List.forall_mem_cons, List.not_mem_nil, false_imp_iff, implies_true, and_true]
  exact ⟨std_ok_Frontier, std_ok_Homestead, std_ok_TangerineWhistle, std_ok_SpuriousDragon, std_ok_Byzantium, std_ok_Constantinople,
    std_ok_Petersburg, std_ok_Istanbul, std_ok_Berlin, std_ok_London, std_ok_Merge, std_ok_Shanghai⟩

/-- **C01 (interpreter loop)**: on every instruction table of go-ethereum v1.12.0 — that is, for every program over the standard
    instruction set — a run does not depend on the state-change tracer and call-tree recorder it carries along: from two states
    that differ in the tracer only, every iteration count gives results that differ in the tracer only. -/
theorem interp_tracer_invisible (rows : List Gen.OpRow) (hr : rows ∈ upstreamTables) (env : IEnv World)
    (he : env.table = tableOf rows) (n : Nat) (x : Tracer) (s : IState World) :
    run env n (s.setTr x) = (run env n s).setTr x :=
  run_setTr_std (stdOK_sound (upstream_std rows hr) he) n x s

/-- non-vacuity: a concrete environment on the Cancun table meets the hypotheses, and a program runs on it -/
def demoEnv : IEnv Unit :=
  { code := [0x60, 0x02, 0x60, 0x03, 0x01, 0x60, 0x00, 0x52, 0x60, 0x20, 0x60, 0x00, 0xf3], input := [], vals := fun _ => 0, abort := false,
    table := tableOf Gen.forkCancun,
    mkEnv := fun _ _ => { contract := 0, mem := [], memCap := 0, storage := fun _ => 0, keccak := fun _ => 0 } }

def demoState : IState Unit :=
  { stack := [], mem := [], pc := 0, gas := 100, rdata := [], readOnly := false, world := (), tr := {}, last := 0 }

example : EnvOK demoEnv := ⟨by decide, by decide, fun _ _ _ => ⟨Nat.le_refl _, by simp [demoEnv, maxAlloc], fun n => Nat.le_refl n⟩⟩
example : Inv demoState := by simp [Inv, demoState, memCeil]
example : MemInv demoState := by simp [MemInv, demoState, memFee]
/-- … and the model runs the demo program (3 + 2, stored and returned) to a normal halt with the expected data -/
example : (match run demoEnv 20 demoState with | .halt h g => some (h, g) | _ => none) = some (.ret (beBytes 32 5), 76) := by
  decide +kernel

end Interp
end Artela
