import Artela.Props.C07Frame
/-
  C08 (counting form) — every CALL / CREATE / CREATE2 attempt appears exactly once: after ANY event sequence the number of
  recorded nodes equals the number of `Call` / `create` invocations made (refused ones included), and CallCode / DelegateCall
  / StaticCall invocations, epilogues, effects and journal instructions add none.
-/
namespace Artela
open Frame

def attempts : List FEvent → Nat
  | [] => 0
  | .enter k _ _ _ _ _ _ :: rest => (if k = .call ∨ k.isCreate then 1 else 0) + attempts rest
  | _ :: rest => attempts rest

theorem count_exit (t : CallTree) (l : Nat) (r : Option Bytes) (e : Option String) : (t.exit l r e).count = t.count := by
  rcases CallTree.exit_cases t l r e with h | ⟨c, n, _, _, h⟩ <;> rw [h]

@[simp] theorem finish_count (st : FState) (k : CallKind) (c t : Addr) (gs : Nat) (tn dbg top : Bool) (sg : Nat)
    (r : Option Bytes) (g : Nat) (e : Option String) (w en sn : List Effect) (ran : Bool) :
    (finish st k c t gs tn dbg top sg r g e w en sn ran).tracer.tree.count = st.tracer.tree.count := by
  rw [finish_tree]
  split
  · exact count_exit ..
  · rfl

theorem ends_count : (ends st nd k c t v i g f p V).tracer.tree.count = st.tracer.tree.count + if nd.isSome then 1 else 0 := by
  rw [ends_tree_mod_exit CallTree.count count_exit]; cases nd <;> rfl

theorem enterCall_count (st : FState) (caller to : Addr) (value : Nat) (input : Bytes) (gas : Nat) (f : EnterFacts) :
    (enterCall st caller to value input gas f).tracer.tree.count = st.tracer.tree.count + 1 := by
  rw [enterCall_eq]; exact ends_count

theorem enterCreate_count (st : FState) (kind : CallKind) (caller to : Addr) (value : Nat) (input : Bytes) (gas : Nat) (f : EnterFacts) :
    (enterCreate st kind caller to value input gas f).tracer.tree.count = st.tracer.tree.count + 1 := by
  rw [enterCreate_eq]; exact ends_count

theorem enterOther_count (st : FState) (kind : CallKind) (caller to : Addr) (value : Nat) (input : Bytes) (gas : Nat) (f : EnterFacts) :
    (enterOther st kind caller to value input gas f).tracer.tree.count = st.tracer.tree.count := by
  rw [enterOther_eq]; exact ends_count

theorem haltFrame_count (st : FState) (fr : OpenFrame) (rest : List OpenFrame) (ret : Option Bytes) (err : Option String)
    (gasLeft : Nat) (post : JPResult) : (haltFrame st fr rest ret err gasLeft post).tracer.tree.count = st.tracer.tree.count :=
  (haltFrame_halts ..).tree_mod_exit CallTree.count count_exit

theorem step_count (st : FState) (ev : FEvent) : (Frame.step st ev).tracer.tree.count = st.tracer.tree.count + attempts [ev] := by
  generalize Frame.step st ev = st', step_shape st ev = hS
  cases hS with
  | @enters k => rw [ends_count]; cases k <;> rfl
  | halts _ hH => exact hH.tree_mod_exit CallTree.count count_exit
  | idle ev _ hev =>
    cases ev with
    | enter k c t v i g f => exact absurd rfl (hev k c t v i g f)
    | _ => rfl
  | _ => rfl

theorem attempts_cons (e : FEvent) (es : List FEvent) : attempts (e :: es) = attempts [e] + attempts es := by
  cases e <;> simp [attempts]

theorem run_count (st : FState) (evs : List FEvent) :
    (Frame.run st evs).tracer.tree.count = st.tracer.tree.count + attempts evs := by
  induction evs generalizing st with
  | nil => rfl
  | cons e es ih => rw [Frame.run_cons, ih, step_count, attempts_cons e es, Nat.add_assoc]

/-- **every event sequence**: one node per CALL / CREATE / CREATE2 attempt, no node for anything else -/
theorem c08_one_node_per_attempt (evs : List FEvent) : (Frame.run {} evs).tracer.tree.count = attempts evs := by
  rw [run_count]; exact Nat.zero_add _

/-- … and they are dense: the arena holds exactly the indices 0 … count−1 (from the well-formedness invariant) -/
theorem c08_nodes_are_the_attempts (evs : List FEvent) : (Frame.run {} evs).tracer.tree.nodes.length = attempts evs := by
  have hwf := c07_tree_wf_always evs
  rw [← c08_one_node_per_attempt evs]
  exact hwf.1.symm

end Artela
