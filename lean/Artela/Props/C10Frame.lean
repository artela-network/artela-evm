import Artela.Props.C07Frame
import Artela.Props.C10
/-
  C10 (frame part) — which account and which call a journal instruction files its entry under.

  A journal instruction passes the running frame's storage address: the callee for `Call`, `StaticCall` and `create`,
  the CALLER's own address for `CallCode` and `DelegateCall` (the borrowed code writes the borrower's storage, so the
  entry belongs to the borrower).  The entry is filed under the node of the innermost CALL/CREATE frame in progress,
  however many CallCode/DelegateCall/StaticCall frames (which push no node) sit on top of it.
-/
namespace Artela
open Frame

/-- storage context the EVM gives a frame of each kind -/
def storageContext (kind : CallKind) (caller to : Addr) : Addr :=
  match kind with
  | .callcode | .delegatecall => caller
  | _ => to

/-- the frame `EVM.Call` opens (if it opens one) runs in the callee's storage context -/
theorem c10_call_frame_account (st : FState) (caller to : Addr) (value : Nat) (input : Bytes) (gas : Nat) (f : EnterFacts) :
    ∀ fr ∈ (enterCall st caller to value input gas f).stack, fr ∈ st.stack ∨ (fr.storageAddr = to ∧ fr.treeNode = true) :=
  by rw [enterCall_eq]; exact ends_new_frame

/-- `CallCode` / `DelegateCall` frames run in the caller's storage context, `StaticCall` frames in the callee's; none
    of them pushes a call-tree node -/
theorem c10_other_frame_account (st : FState) (kind : CallKind) (caller to : Addr) (value : Nat) (input : Bytes) (gas : Nat) (f : EnterFacts)
    (hk : kind = .callcode ∨ kind = .delegatecall ∨ kind = .staticcall) :
    ∀ fr ∈ (enterOther st kind caller to value input gas f).stack,
      fr ∈ st.stack ∨ (fr.storageAddr = storageContext kind caller to ∧ fr.treeNode = false) := by
  rw [enterOther_eq]
  rcases hk with rfl | rfl | rfl <;> exact ends_new_frame

/-- the frame `create` opens runs in the new contract's storage context -/
theorem c10_create_frame_account (st : FState) (kind : CallKind) (caller to : Addr) (value : Nat) (input : Bytes) (gas : Nat) (f : EnterFacts) :
    ∀ fr ∈ (enterCreate st kind caller to value input gas f).stack, fr ∈ st.stack ∨ (fr.storageAddr = to ∧ fr.treeNode = true) :=
  by rw [enterCreate_eq]; exact ends_new_frame

/-- a journal instruction of the running frame passes that frame's storage address to the tracer -/
theorem c10_journal_passes_frame_account (st : FState) (fr : OpenFrame) (rest : List OpenFrame) (slot : Word) (off : Option Word)
    (ty : Word) (v : Bytes) (hs : st.stack = fr :: rest) :
    (Frame.step st (.jchange slot off ty v)).tracer = (st.tracer.saveStateChange fr.storageAddr slot off ty v).1 := by
  simp only [Frame.step, hs]

/-- **attribution to the call in progress, every event sequence**: after any history of the frame machine, a change
    journaled now is filed under the node of the innermost CALL/CREATE frame in progress (0 when no such frame is open) -/
theorem c10_filed_under_innermost_node_frame (evs : List FEvent) (a : Addr) (slot : Word) (off : Option Word) (ty : Word) (v : Bytes) :
    ((run {} evs).tracer.saveStateChange a slot off ty v).1.states =
      ((run {} evs).tracer.states.saveChange a slot off ty ((cursorOf (run {} evs).stack none).getD 0) v).1 := by
  rw [(c10_index_is_cursor _ a slot off ty v).1]
  unfold CallTree.currentIndex
  rw [c07_cursor_is_innermost_node_frame evs]

/-- non-vacuity: a DELEGATECALL frame on top of a CALL frame journals under the CALL frame's node and the borrower's address -/
example :
    let evs : List FEvent := [ .enter .call 0xca 0xc0 0 [] 1000 {}, .enter .delegatecall 0xc0 0xd1 0 [] 500 {} ]
    (run {} evs).stack.map (fun fr => (fr.storageAddr, fr.treeNode)) = [(0xc0, false), (0xc0, true)] ∧
    cursorOf (run {} evs).stack none = some 0 := by decide +kernel

end Artela
