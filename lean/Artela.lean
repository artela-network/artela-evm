import Artela.Generated.FuncIdentity
import Artela.Generated.JumpTables
import Artela.Generated.Precompiles
import Artela.Generated.SourceFacts
import Artela.Model.AccessList
import Artela.Model.Base
import Artela.Model.CallTracer
import Artela.Model.CallTree
import Artela.Model.FlatTracer
import Artela.Model.Frame
import Artela.Model.Interp
import Artela.Model.Journal
import Artela.Model.Memory
import Artela.Model.Modexp
import Artela.Model.Precompile
import Artela.Model.StateChanges
import Artela.Proofs.ArenaKit
import Artela.Proofs.BytesKit
import Artela.Proofs.BytesOrder
import Artela.Proofs.CallReaches
import Artela.Proofs.CallTreeBalanced
import Artela.Proofs.CallTreeWF
import Artela.Proofs.ChangeMapKit
import Artela.Proofs.FoldKit
import Artela.Proofs.FrameInv
import Artela.Proofs.FrameShape
import Artela.Proofs.FrameTree
import Artela.Proofs.GenFacts
import Artela.Proofs.GoKit
import Artela.Proofs.InterpStep
import Artela.Proofs.InterpTable
import Artela.Proofs.JournalSafe
import Artela.Proofs.KeyTreeKit
import Artela.Proofs.McopyStep
import Artela.Proofs.MemoryKit
import Artela.Proofs.RoseFlat
import Artela.Props.C01
import Artela.Props.C03
import Artela.Props.C04
import Artela.Props.C05
import Artela.Props.C05Nest
import Artela.Props.C06
import Artela.Props.C06Run
import Artela.Props.C07
import Artela.Props.C07Frame
import Artela.Props.C07Roots
import Artela.Props.C08
import Artela.Props.C08Count
import Artela.Props.C09
import Artela.Props.C10
import Artela.Props.C10Frame
import Artela.Props.C11
import Artela.Props.C11Global
import Artela.Props.C12
import Artela.Props.C13
import Artela.Props.C13Frame
import Artela.Props.C13Only
import Artela.Props.C14
import Artela.Props.C15
import Artela.Props.C16
import Artela.Props.C17
import Artela.Props.C18
import Artela.Props.C18Acl
import Artela.Props.C19
import Artela.Props.C19Flat
import Artela.Props.C19Once
import Artela.Props.C20
import Artela.Props.InterpAbort
import Artela.Props.InterpGas
import Artela.Props.InterpHalts
import Artela.Props.InterpJournal
import Artela.Props.InterpSafe
import Artela.Props.InterpTables
import Artela.Props.InterpWork
import Artela.Props.Modexp
import Artela.Spec.Abi
import Artela.Spec.Delta
import Artela.Spec.Solidity
